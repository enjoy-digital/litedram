/-
C14: the BIST cores of `Model/Bist.lean` against the sequence `seqAddr i` / `seqData i` of the run (`Spec/BistSpec.lean`): what the
generator hands to the DMA writer, what the checker reads and counts, what a faithful memory makes of that count, and where the
addresses lie (in `[base, end)` on a byte-wide port, not in general: `addr_out_of_range_witness`).
Not composed: the two generator theorems run over different functions (`grun`, `gfinal`) that no lemma relates; `checker_started` and
`checker_counts_differences` are not joined into one statement from reset; and nothing runs generator, port and checker together - the memory
lemmas speak of `applyWrites` and `Mem.get`, not of what the DMA engines do on the port.
-/
import LitedramVerif.Model.Bist
import LitedramVerif.Spec.BistSpec
import LitedramVerif.Proofs.NatBits
import LitedramVerif.Proofs.Lists
import LitedramVerif.Proofs.FifoQueue
namespace C14
open Bist BistSpec

theorem iter_succ_outer {α : Type} (f : α → α) (n : Nat) (x : α) : iter f (n + 1) x = f (iter f n x) := by
  induction n generalizing x with
  | zero => rfl
  | succ n ih => exact ih (f x)

theorem genAt_succ (i : Nat) : genAt (i + 1) = (genAt i).tick := iter_succ_outer Gen.tick i {}

theorem genAt_count (i : Nat) : (genAt i).count = i % 2 ^ 31 := by
  induction i with
  | zero => rfl
  | succ i ih => rw [genAt_succ]; simp only [Gen.tick]; omega

theorem nWords_lt (c : Cfg) (r : Regs) : nWords c r < 2 ^ c.aw := by
  unfold nWords Cfg.awidth
  split
  · exact Nat.lt_of_le_of_lt (Nat.div_le_self _ _) (Nat.mod_lt _ (Nat.two_pow_pos _))
  · rw [Nat.div_lt_iff_lt_mul (Nat.two_pow_pos _), ← Nat.pow_add]
    exact Nat.mod_lt _ (Nat.two_pow_pos _)

theorem succ_mod_of_lt_nWords (c : Cfg) (r : Regs) (k : Nat) (h : k + 1 < nWords c r) : (k + 1) % 2 ^ c.aw = k + 1 :=
  Nat.mod_eq_of_lt (Nat.lt_trans h (nWords_lt c r))

theorem gen_step (g : Gen) (k : Nat) (acc : Bool) (h : g = genAt k) :
    (if acc then g.tick else g) = genAt (if acc then k + 1 else k) := by
  cases acc <;> simp [h, genAt_succ]

/-- the hardware's end-of-run test `counter == nWords - 1` (evaluated on integers) -/
theorem ctr_last (k n : Nat) : ((k : Int) == (n : Int) - 1) = decide (k + 1 = n) := by
  rw [Bool.eq_iff_iff]; simp; omega

/-- `k` words handed over so far -/
def GInv (c : Cfg) (r : Regs) (s : GState) (k : Nat) : Prop :=
  s.dataGen = genAt k ∧ s.addrGen = genAt k ∧
  match s.fsm with
  | .idle => k = 0
  | .run | .wait => s.cmdCounter = k ∧ k < nWords c r
  | .await | .done => k = nWords c r

theorem GInv.le {c : Cfg} {r : Regs} {s : GState} {k : Nat} (h : GInv c r s k) : k ≤ nWords c r := by
  have hf := h.2.2
  cases hfsm : s.fsm <;> simp only [hfsm] at hf <;> omega

theorem GInv.finished {c : Cfg} {r : Regs} {s : GState} {k : Nat} (h : GInv c r s k)
    (hf : s.fsm = .await ∨ s.fsm = .done) : k = nWords c r := by
  rcases hf with hf | hf <;> simpa only [hf] using h.2.2

theorem gstep_inv (c : Cfg) (r : Regs) (s : GState) (i : GIn) (k : Nat)
    (hn : 1 ≤ nWords c r) (hr : i.reset = false) (h : GInv c r s k) :
    let o := (gstep c r s i).2
    let acc := o.sinkValid && o.sinkReady
    GInv c r (gstep c r s i).1 (if acc then k + 1 else k) ∧
    (acc = true → o.sinkAddr = seqAddr c r k ∧ o.sinkData = seqData c r k) := by
  obtain ⟨hd, ha, hf⟩ := h
  simp only [gstep, hr, ctr_last]
  generalize (Dma.wstep c.dma s.dma _) = w
  generalize hacc : (s.fsm == GFsm.run && w.2.sinkReady) = acc
  refine ⟨⟨gen_step _ k acc hd, gen_step _ k acc ha, ?_⟩, fun _ => by rw [seqAddr, seqData, hd, ha]; exact ⟨rfl, rfl⟩⟩
  cases hfsm : s.fsm <;> simp only [hfsm] at hf hacc ⊢
  case idle =>
    obtain rfl : acc = false := hacc.symm
    cases i.start <;> simp [hf] <;> omega
  case wait =>
    obtain rfl : acc = false := hacc.symm
    cases i.cascadeIn <;> simpa using hf
  case run =>
    obtain ⟨hc, hk⟩ := hf
    cases acc
    · simp [hc, hk]
    · by_cases hl : k + 1 = nWords c r
      · simp [hc, hl]
      · cases i.cascadeIn <;> simp [hc, hl, succ_mod_of_lt_nWords c r k (by omega)] <;> omega
  case await =>
    obtain rfl : acc = false := hacc.symm
    cases w.2.wdataValid <;> simpa using hf
  case done =>
    obtain rfl : acc = false := hacc.symm
    simpa using hf

def grun (c : Cfg) (r : Regs) : GState → List GIn → GState × List (Nat × Nat)
  | s, [] => (s, [])
  | s, i :: is =>
    let o := (gstep c r s i).2
    let rest := grun c r (gstep c r s i).1 is
    (rest.1, if o.sinkValid && o.sinkReady then (o.sinkAddr, o.sinkData) :: rest.2 else rest.2)

def seqFrom (c : Cfg) (r : Regs) (k m : Nat) : List (Nat × Nat) :=
  (List.range' k m).map (fun i => (seqAddr c r i, seqData c r i))

theorem grun_inv (c : Cfg) (r : Regs) (ins : List GIn) (s : GState) (k : Nat)
    (hn : 1 ≤ nWords c r) (hr : ∀ i ∈ ins, i.reset = false) (h : GInv c r s k) :
    ∃ m, GInv c r (grun c r s ins).1 (k + m) ∧ (grun c r s ins).2 = seqFrom c r k m := by
  induction ins generalizing s k with
  | nil => exact ⟨0, h, rfl⟩
  | cons i is ih =>
    obtain ⟨hinv, hw⟩ := gstep_inv c r s i k hn (hr i (by simp)) h
    exact Lists.collect_step k (fun e => Prod.ext (hw e).1 (hw e).2) (ih _ _ (fun j hj => hr j (by simp [hj])) hinv)

/-- **Generator.** From reset, under every schedule of start strobes, cascade stalls and port handshakes (no reset
in between), the words handed to the DMA engine are a prefix of the run's sequence `(seqAddr i, seqData i)`, in
order, without gaps or repeats; and once the FSM has left RUN for good (`await`/`done`) it is the whole sequence
of exactly `nWords` words. -/
theorem generator_writes_sequence (c : Cfg) (r : Regs) (ins : List GIn)
    (hn : 1 ≤ nWords c r) (hr : ∀ i ∈ ins, i.reset = false) :
    ∃ m, m ≤ nWords c r ∧ (grun c r {} ins).2 = writes c r m ∧
      (((grun c r {} ins).1.fsm = .await ∨ (grun c r {} ins).1.fsm = .done) → m = nWords c r) := by
  obtain ⟨m, hm, hws⟩ := grun_inv c r ins {} 0 hn hr ⟨rfl, rfl, rfl⟩
  exact ⟨m, by simpa using hm.le, by simp [hws, seqFrom, writes, List.range_eq_range'], by simpa using hm.finished⟩

/-- when the generator reports `done`, the DMA engine's FIFO is empty: every word handed to it has left on the port -/
def DoneInv (s : GState) : Prop := s.fsm = .done → s.dma.fifo.q = []

theorem done_inv_step (c : Cfg) (r : Regs) (s : GState) (i : GIn) (hd : 2 ≤ c.dma.depth) (hb : c.dma.buffered = false)
    (hr : i.reset = false) (h : DoneInv s) : DoneInv (gstep c r s i).1 := by
  -- `done` is entered from AWAIT when the unbuffered FIFO shows nothing, hence is empty; there and in DONE nothing is pushed
  have hq := fun v d rdy => (Fifo.step_sync (Dma.dataCfg c.dma) hd hb s.dma.fifo v d rdy).1
  have hv := fun v => (Fifo.step_sync (Dma.dataCfg c.dma) hd hb s.dma.fifo v 0 false).2
  unfold DoneInv at *
  cases hf : s.fsm <;> simp only [gstep, hr, hf, Dma.wstep, hq, hv] <;> simp
  case idle | wait | run => intro h'; (repeat' split at h') <;> cases h'
  case await => intro h'; simp [h']
  case done => simp [h hf]

def gfinal (c : Cfg) (r : Regs) : GState → List GIn → GState
  | s, [] => s
  | s, i :: is => gfinal c r (gstep c r s i).1 is

/-- **`done` means written.** From reset, with the DMA engine's default FIFO (16 deep, unbuffered) and no reset in
between: whenever the generator shows `done`, exactly `nWords` words - the whole sequence - have been handed to the DMA
engine (`generator_writes_sequence`) and its FIFO is empty, i.e. every one of them has left on the port. -/
theorem done_means_written (c : Cfg) (r : Regs) (ins : List GIn) (hd : 2 ≤ c.dma.depth) (hb : c.dma.buffered = false)
    (hr : ∀ i ∈ ins, i.reset = false) : DoneInv (gfinal c r {} ins) := by
  suffices ∀ s, DoneInv s → DoneInv (gfinal c r s ins) from this _ (by simp [DoneInv])
  induction ins with
  | nil => intro s h; exact h
  | cons i is ih =>
    intro s h
    exact ih (fun j hj => hr j (by simp [hj])) _ (done_inv_step c r s i hd hb (hr i (by simp)) h)

theorem errCount_snoc (c : Cfg) (r : Regs) (ws : List Nat) (w : Nat) :
    errCount c r (ws ++ [w]) = errCount c r ws + (if w != seqData c r ws.length then 1 else 0) := by
  simp [errCount, List.zipIdx_append]

theorem errCount_le (c : Cfg) (r : Regs) (ws : List Nat) : errCount c r ws ≤ ws.length := by
  simpa [errCount] using List.countP_le_length (l := ws.zipIdx) (p := fun p => p.1 != seqData c r p.2)

/-- `errors` (32 bits) does not wrap: `errCount ≤ ws.length < nWords < 2^aw ≤ 2^32` -/
theorem errors_succ_no_wrap (c : Cfg) (r : Regs) (ws : List Nat) (h32 : c.aw ≤ 32) (hk : ws.length < nWords c r) :
    (errCount c r ws + 1) % 2 ^ 32 = errCount c r ws + 1 := by
  have hle := errCount_le c r ws
  have hlt := nWords_lt c r
  have h2 : 2 ^ c.aw ≤ 2 ^ 32 := Nat.pow_le_pow_right (by omega) h32
  exact Nat.mod_eq_of_lt (by omega)

/-- `kc` read addresses handed to the DMA engine so far, `ws` the words compared so far (oldest first) -/
def CInv (c : Cfg) (r : Regs) (s : CState) (kc : Nat) (ws : List Nat) : Prop :=
  s.addrGen = genAt kc ∧ s.dataGen = genAt ws.length ∧
  (match s.cmdFsm with
   | .idle => False
   | .wait | .run => s.cmdCounter = kc ∧ kc < nWords c r
   | .done => kc = nWords c r) ∧
  (match s.dataFsm with
   | .idle => False
   | .run => s.dataCounter = ws.length ∧ ws.length < nWords c r ∧ s.errors = errCount c r ws
   | .done => ws.length = nWords c r ∧ s.errors = errCount c r ws)

theorem cstep_inv (c : Cfg) (r : Regs) (s : CState) (i : CIn) (kc : Nat) (ws : List Nat)
    (h32 : c.aw ≤ 32) (hr : i.reset = false) (hs : i.start = false)
    (h : CInv c r s kc ws) :
    let o := (cstep c r s i).2
    CInv c r (cstep c r s i).1 (if o.cmdAcc then kc + 1 else kc) (if o.dataAcc then ws ++ [o.data] else ws) ∧
    (o.cmdAcc = true → o.addr = seqAddr c r kc) := by
  obtain ⟨ha, hd, hcf, hdf⟩ := h
  simp only [cstep, hr, hs, ctr_last]
  generalize (Dma.rstep c.dma s.dma _) = w
  generalize hca : (s.cmdFsm == CFsm.run && w.2.sinkReady) = cacc
  generalize hda : (s.dataFsm == DFsm.run && w.2.srcValid) = dacc
  refine ⟨⟨gen_step _ kc cacc ha, ?_, ?_, ?_⟩, fun _ => by rw [seqAddr, ha]⟩
  · cases dacc <;> simp [hd, genAt_succ]
  · cases hf : s.cmdFsm <;> simp only [hf] at hcf hca ⊢
    case wait =>
      obtain rfl : cacc = false := hca.symm
      cases i.cascadeIn <;> simpa using hcf
    case run =>
      obtain ⟨hc, hk⟩ := hcf
      cases cacc
      · simp [hc, hk]
      · by_cases hl : kc + 1 = nWords c r
        · simp [hc, hl]
        · cases i.cascadeIn <;> simp [hc, hl, succ_mod_of_lt_nWords c r kc (by omega)] <;> omega
    case done =>
      obtain rfl : cacc = false := hca.symm
      simpa using hcf
  · cases hf : s.dataFsm <;> simp only [hf] at hdf hda ⊢
    case run =>
      obtain ⟨hc, hk, he⟩ := hdf
      cases dacc
      · simp [hc, hk, he]
      · have herr := errors_succ_no_wrap c r ws h32 hk
        by_cases hl : ws.length + 1 = nWords c r
        · by_cases hx : w.2.srcData = replicate c.dw ((genAt ws.length).o r.randomData) <;>
            simp [hc, hl, he, hd, errCount_snoc, seqData, hx, herr]
        · by_cases hx : w.2.srcData = replicate c.dw ((genAt ws.length).o r.randomData) <;>
            simp [hc, hl, he, hd, errCount_snoc, seqData, hx, herr, succ_mod_of_lt_nWords c r ws.length (by omega)] <;> omega
    case done =>
      obtain rfl : dacc = false := hda.symm
      simpa using hdf

theorem CInv.cmd_le {c : Cfg} {r : Regs} {s : CState} {kc : Nat} {ws : List Nat} (h : CInv c r s kc ws) :
    kc ≤ nWords c r := by
  have hcf := h.2.2.1
  cases hf : s.cmdFsm <;> simp only [hf] at hcf <;> omega

theorem CInv.done {c : Cfg} {r : Regs} {s : CState} {kc : Nat} {ws : List Nat} (h : CInv c r s kc ws)
    (hd : s.dataFsm = .done) : ws.length = nWords c r ∧ s.errors = errCount c r ws := by
  simpa only [hd] using h.2.2.2

theorem CInv.running {c : Cfg} {r : Regs} {s : CState} {kc : Nat} {ws : List Nat} (h : CInv c r s kc ws)
    (hd : s.dataFsm ≠ .done) : ws.length < nWords c r := by
  have hdf := h.2.2.2
  cases hf : s.dataFsm <;> simp only [hf] at hdf
  · exact hdf.2.1
  · exact absurd hf hd

def crun (c : Cfg) (r : Regs) : CState → List CIn → CState × List Nat × List Nat
  | s, [] => (s, [], [])
  | s, i :: is =>
    let o := (cstep c r s i).2
    let rest := crun c r (cstep c r s i).1 is
    (rest.1, (if o.cmdAcc then o.addr :: rest.2.1 else rest.2.1), (if o.dataAcc then o.data :: rest.2.2 else rest.2.2))

theorem crun_inv (c : Cfg) (r : Regs) (ins : List CIn) (s : CState) (kc : Nat) (ws : List Nat)
    (h32 : c.aw ≤ 32)
    (hr : ∀ i ∈ ins, i.reset = false ∧ i.start = false) (h : CInv c r s kc ws) :
    ∃ m, CInv c r (crun c r s ins).1 (kc + m) (ws ++ (crun c r s ins).2.2) ∧
      (crun c r s ins).2.1 = (List.range' kc m).map (seqAddr c r) := by
  induction ins generalizing s kc ws with
  | nil => exact ⟨0, by simpa [crun] using h, rfl⟩
  | cons i is ih =>
    obtain ⟨hinv, hw⟩ := cstep_inv c r s i kc ws h32 (hr i (by simp)).1 (hr i (by simp)).2 h
    have ih' := ih _ _ _ (fun j hj => hr j (by simp [hj])) hinv
    rw [Lists.ite_snoc_append] at ih'
    exact Lists.collect_step (P := fun k => CInv c r _ k _) kc hw ih'

/-- the state right after the start strobe: from reset, a cycle with `start` puts both FSMs to work at position 0 -/
theorem checker_started (c : Cfg) (r : Regs) (i : CIn) (hn : 1 ≤ nWords c r) (hs : i.start = true) (hr : i.reset = false) :
    CInv c r (cstep c r {} i).1 0 [] := by
  simp [cstep, CInv, hs, hr, errCount, genAt, iter]
  omega

/-- **Checker.** After the start strobe, under every schedule of cascade stalls, port handshakes and read-data
arrival times (no further start or reset), the read addresses handed to the DMA engine are a prefix of the run's
address sequence, and when `done` is reported exactly `nWords` returned words have been compared and `errors` is the
number of positions `i` at which the `i`-th returned word differs from `seqData i`. -/
theorem checker_counts_differences (c : Cfg) (r : Regs) (s0 : CState) (ins : List CIn)
    (h32 : c.aw ≤ 32) (h0 : CInv c r s0 0 [])
    (hr : ∀ i ∈ ins, i.reset = false ∧ i.start = false) :
    let fin := crun c r s0 ins
    (∃ m, m ≤ nWords c r ∧ fin.2.1 = (List.range m).map (seqAddr c r)) ∧
    (fin.1.dataFsm = .done → fin.2.2.length = nWords c r ∧ fin.1.errors = errCount c r fin.2.2) ∧
    (fin.1.dataFsm ≠ .done → fin.2.2.length < nWords c r) := by
  obtain ⟨m, hm, hws⟩ := crun_inv c r ins s0 0 [] h32 hr h0
  exact ⟨⟨m, by simpa using hm.cmd_le, by simpa [List.range_eq_range'] using hws⟩,
    fun hd => by simpa using hm.done hd, fun hd => by simpa using hm.running hd⟩

theorem get_set (m : Mem) (a d x : Nat) : (m.set a d).get x = if x = a then d else m.get x := by
  by_cases h : x = a
  · simp [Mem.get, Mem.set, h]
  · simp [Mem.get, Mem.set, h, Ne.symm h]

/-- when the memory answers the `i`-th read with the word it stores at `seqAddr i`, the checker's count is the
number of sequence positions at which the stored word differs from the generated word -/
theorem errCount_of_faithful_reads (c : Cfg) (r : Regs) (m : Mem) (n : Nat) :
    errCount c r ((List.range n).map (fun i => m.get (seqAddr c r i))) = expectedErrors c r n m := by
  induction n with
  | zero => simp [errCount, expectedErrors]
  | succ n ih =>
    rw [List.range_succ, List.map_append, List.map_cons, List.map_nil, errCount_snoc, ih]
    simp [expectedErrors, List.range_succ]

theorem writes_succ (c : Cfg) (r : Regs) (n : Nat) :
    writes c r (n + 1) = writes c r n ++ [(seqAddr c r n, seqData c r n)] := by
  simp [writes, List.range_succ]

/-- a memory that stores faithfully, after a run whose address sequence does not repeat an address, holds
`seqData i` at `seqAddr i` for every position -/
theorem faithful_memory_holds_sequence (c : Cfg) (r : Regs) (m : Mem) (n : Nat)
    (hinj : ∀ i j, i < n → j < n → seqAddr c r i = seqAddr c r j → i = j) :
    ∀ i, i < n → (applyWrites m (writes c r n)).get (seqAddr c r i) = seqData c r i := by
  induction n with
  | zero => intro i hi; omega
  | succ n ih =>
    intro i hi
    rw [writes_succ, applyWrites, List.foldl_append]
    simp only [List.foldl_cons, List.foldl_nil, get_set]
    split
    next h => rw [hinj i n hi (by omega) h]
    next h =>
      exact ih (fun a b ha hb => hinj a b (by omega) (by omega)) i
        (Nat.lt_of_le_of_ne (Nat.le_of_lt_succ hi) fun e => h (by rw [e]))

/-- ... and therefore the checker must report zero -/
theorem no_repeat_zero_errors (c : Cfg) (r : Regs) (m : Mem) (n : Nat)
    (hinj : ∀ i j, i < n → j < n → seqAddr c r i = seqAddr c r j → i = j) :
    expectedErrors c r n (applyWrites m (writes c r n)) = 0 := by
  simp only [expectedErrors, List.countP_eq_zero, List.mem_range]
  intro i hi
  simp [faithful_memory_holds_sequence c r m n hinj i hi]

/-- `k` corrupted words yield exactly `k` errors: if the words stored at the positions `ps` (distinct positions of
the run) differ from the generated ones and all other positions hold the generated word, the count is `|ps|` -/
theorem corrupted_words_counted (c : Cfg) (r : Regs) (m : Mem) (n : Nat) (ps : List Nat)
    (hnd : ps.Nodup) (hlt : ∀ p ∈ ps, p < n)
    (hm : ∀ i, i < n → (m.get (seqAddr c r i) ≠ seqData c r i ↔ i ∈ ps)) :
    expectedErrors c r n m = ps.length := by
  rw [← Lists.count_mem_range ps n hnd hlt]
  apply List.countP_congr
  intro i hi
  simp [hm i (List.mem_range.mp hi)]

theorem and_addrMask (c : Cfg) (r : Regs) (k : Nat) (hb : r.base < r.end_) (he : r.end_ ≤ 2 ^ c.awidth)
    (hk : r.end_ - r.base = 2 ^ k) (o : Nat) : o &&& addrMask c r = o % 2 ^ k := by
  have : addrMask c r = 2 ^ k - 1 := by
    unfold addrMask
    generalize 2 ^ c.awidth = P at *
    rw [Nat.mod_eq_of_lt (a := r.base) (by omega), show r.end_ + P - r.base + P - 1 = (2 ^ k - 1) + P + P by omega,
      Nat.add_mod_right, Nat.add_mod_right, Nat.mod_eq_of_lt (by omega)]
  rw [this, Nat.and_two_pow_sub_one_eq_mod]

/-- **What the code guarantees about addresses (native port).** For a power-of-two range every word of the run lies,
modulo the port's address space, within `end - base` WORDS above `base`: the mask `(end - base) - 1` is a byte count
but is applied to a word offset. -/
theorem addr_in_mask_window (c : Cfg) (r : Regs) (i k : Nat) (hax : c.axi = false)
    (hb : r.base < r.end_) (he : r.end_ ≤ 2 ^ c.awidth) (hk : r.end_ - r.base = 2 ^ k) :
    inMaskWindow c r (seqAddr c r i) = true := by
  have hbl : r.base % 2 ^ c.awidth = r.base := Nat.mod_eq_of_lt (by omega)
  simp only [inMaskWindow, seqAddr, sinkAddr, byteLo, wordBits, hax, and_addrMask c r k hb he hk, hbl, Bool.false_eq_true,
    if_false, decide_eq_true_eq]
  rw [Nat.mul_div_cancel _ (Nat.two_pow_pos _), NatBits.ring_dist _ _ _ (Nat.two_pow_pos _)]
  generalize (genAt i).o r.randomAddr = o
  have h2 : o % 2 ^ k % 2 ^ c.aw ≤ o % 2 ^ k := Nat.mod_le _ _
  omega

/-- **Byte-wide ports meet the property.** On an 8-bit native port (`ashift = 0`, where words are bytes) every word
of every run, sequential or random, lies inside `[base, end)`. -/
theorem addr_in_range_bytewide (c : Cfg) (r : Regs) (i k : Nat) (hax : c.axi = false) (hs : c.ashift = 0)
    (hb : r.base < r.end_) (he : r.end_ ≤ 2 ^ c.awidth) (hk : r.end_ - r.base = 2 ^ k) :
    inRange c r (seqAddr c r i) = true := by
  have haw : c.awidth = c.aw := by simp [Cfg.awidth, hs]
  rw [haw] at he
  have hbl : r.base % 2 ^ c.aw = r.base := Nat.mod_eq_of_lt (by omega)
  simp only [inRange, seqAddr, sinkAddr, byteLo, byteHi, hax, and_addrMask c r k hb (haw ▸ he) hk, haw, hbl, hs,
    Bool.false_eq_true, if_false, Nat.pow_zero, Nat.div_one, Nat.mul_one, Bool.and_eq_true, decide_eq_true_eq]
  rw [Nat.mod_eq_of_lt (by omega)]
  omega

def witnessCfg : Cfg := { dw := 32, aw := 8, axi := false, ashift := 2 }
def witnessRegs : Regs := { base := 4, end_ := 8, length := 24, randomData := false, randomAddr := false }

/-- **The property's range claim is false of the code for wider ports** (recorded as a known finding; the repository's
own `test_bist_generator_32bit_address_masked` pins this behaviour).  On a 32-bit native port with base = 4, end = 8
(one word) and a sequential run of 6 words, position 1 is written at word 2 = byte 8, outside `[4, 8)`.
The harness replays this witness on the real generator on every run. -/
theorem addr_out_of_range_witness :
    nWords witnessCfg witnessRegs = 6 ∧ seqAddr witnessCfg witnessRegs 1 = 2 ∧
    inRange witnessCfg witnessRegs (seqAddr witnessCfg witnessRegs 1) = false := by
  refine ⟨by decide, ?_, ?_⟩ <;>
    simp [seqAddr, sinkAddr, addrMask, genAt, iter, Gen.tick, Gen.o, witnessCfg, witnessRegs, Cfg.awidth, inRange, byteLo, byteHi]

/-- `addr_in_range_bytewide` without `c.ashift = 0`, even restricted to the positions inside the run -/
theorem addr_in_range_full_refuted :
    ¬ (∀ (c : Cfg) (r : Regs) (i k : Nat), c.axi = false → r.base < r.end_ → r.end_ ≤ 2 ^ c.awidth →
        r.end_ - r.base = 2 ^ k → i < nWords c r → inRange c r (seqAddr c r i) = true) := by
  intro h
  have := h witnessCfg witnessRegs 1 2 rfl (by decide) (by decide) (by decide) (by decide)
  rw [addr_out_of_range_witness.2.2] at this
  exact Bool.noConfusion this

example : 1 ≤ nWords witnessCfg witnessRegs ∧ witnessCfg.aw ≤ 32 := by decide
example : GInv witnessCfg witnessRegs {} 0 := ⟨rfl, rfl, rfl⟩
example : ∃ (c : Cfg) (r : Regs) (k : Nat), c.axi = false ∧ c.ashift = 0 ∧ r.base < r.end_ ∧ r.end_ ≤ 2 ^ c.awidth ∧ r.end_ - r.base = 2 ^ k :=
  ⟨{ dw := 8, aw := 8, axi := false, ashift := 0 }, { base := 16, end_ := 32, length := 10, randomData := true, randomAddr := true }, 4,
   rfl, rfl, by decide, by decide, by decide⟩

end C14
