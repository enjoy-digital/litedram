/-
C03 — datasheet timing minimums are respected on the DRAM bus.

Layers (DESIGN §6 C03): (a) the controller spaces the relevant command pairs by at least the configured
number of controller cycles — proved here for the mechanisms that enforce it: the `tXXDController`
(tRRD, tCCD, tWTR, tRC, tRAS, write-to-precharge), the `tFAWController`, and the bank machine's
`TRP` / `TRCD` delay chains; (b) `c` controller cycles apart on arbitrary phases is at least
`c·n − (n−1)` DRAM clocks (`worst_phase`); (c) that many clocks cover the datasheet value (C16).
The composed whole-controller statement is `Dram.Mon.step` (with the timing table) never rejecting a
controller trace; it is evaluated on every implementation trace by the check.
-/
import LitedramVerif.Model.Controller
import LitedramVerif.Spec.Dram
import LitedramVerif.Proofs.BmStep
import LitedramVerif.Proofs.Hw
import LitedramVerif.Proofs.Run
namespace C03
open Hw

/-- ghost: cycles elapsed since the last strobe (as seen in the state after the edge) -/
def since' (since : Nat) (valid : Bool) : Nat := if valid then 1 else since + 1

/-- while fewer than `txxd` cycles have elapsed since a strobe, `ready` is low and the counter
holds the remaining distance -/
def TxInv (txxd : Nat) (s : TX) (since : Nat) : Prop :=
  since < txxd → s.ready = false ∧ s.count = txxd - since

theorem tx_step (txxd : Nat) (s : TX) (since : Nat) (valid : Bool) (h : TxInv txxd s since) :
    TxInv txxd (TX.step (some txxd) s valid) (since' since valid) := by
  intro hlt
  cases valid
  · -- no strobe: still counting, `count = txxd - since ≥ 2`
    simp only [since', Bool.false_eq_true, if_false] at hlt ⊢
    obtain ⟨hr, hc⟩ := h (by omega)
    rw [tx_step_count txxd s hr (by omega) (by have := tx_reload_lt txxd; omega)]
    exact ⟨by simp; omega, by simp only []; omega⟩
  · simp only [since', if_true] at hlt ⊢
    rw [tx_step_strobe]
    exact ⟨by simp; omega, rfl⟩

theorem txinv_ready (txxd : Nat) (s : TX) (since : Nat) (h : TxInv txxd s since) (hr : s.ready = true) : txxd ≤ since :=
  Decidable.byContradiction fun hlt => by rw [(h (by omega)).1] at hr; cases hr

/-- run a controller whose client only strobes when `ready` (as every user in the multiplexer and the
bank machine does: the strobe is `accept = valid & ready`-gated) -/
def txRun (txxd : Nat) : TX → Nat → List Bool → TX × Nat
  | s, since, [] => (s, since)
  | s, since, want :: rest =>
    let v := want && s.ready
    txRun txxd (TX.step (some txxd) s v) (since' since v) rest

theorem tx_run_inv (txxd : Nat) (wants : List Bool) :
    ∀ s since, TxInv txxd s since → TxInv txxd (txRun txxd s since wants).1 (txRun txxd s since wants).2 := by
  induction wants with
  | nil => intro s since h; exact h
  | cons w ws ih => intro s since h; exact ih _ _ (tx_step txxd s since _ h)

/-- **Spacing**: in every reachable state, `ready` high means at least `txxd` cycles have passed since
the previous strobe: two gated strobes are never closer than `txxd` controller cycles (from reset,
where `ready` starts low, for every request pattern). -/
theorem tx_spacing (txxd : Nat) (wants : List Bool) :
    (txRun txxd (TX.init (some txxd)) txxd wants).1.ready = true →
      txxd ≤ (txRun txxd (TX.init (some txxd)) txxd wants).2 :=
  txinv_ready _ _ _ (tx_run_inv txxd wants (TX.init (some txxd)) txxd (by intro h; omega))

/-- four activates in the window keep `ready` low: said for `tfaw ≥ 5` only, below that the count register truncates -/
def TfInv (tfaw : Nat) (s : TF) : Prop :=
  s.window.length = tfaw ∧ s.count ≤ 4 ∧ (5 ≤ tfaw → s.count = 4 → s.ready = false)

/-- the window never holds more than four activates, provided strobes are gated by `ready`
(for `tfaw ≤ 4` the window is too short to hold more; for `tfaw ≥ 5` the counter does not truncate) -/
theorem tf_step (tfaw : Nat) (s : TF) (valid : Bool) (hg : valid = true → s.ready = true) (h : TfInv tfaw s) :
    TfInv tfaw (TF.step (some tfaw) s valid) := by
  obtain ⟨hl, hc, hr⟩ := h
  have hle := count_take_le tfaw (valid :: s.window)
  have hlen : (TF.step (some tfaw) s valid).window.length = tfaw := by
    simp only [tf_step_window, List.length_take, List.length_cons, hl]; omega
  unfold TF.count at hc hr
  by_cases hsmall : tfaw ≤ 4
  · refine ⟨hlen, ?_, fun h5 => by omega⟩
    have := List.length_filter_le id (TF.step (some tfaw) s valid).window
    unfold TF.count; omega
  · have h5 : 5 ≤ tfaw := by omega
    have hr' := hr h5
    -- a gated strobe finds fewer than four in the window
    have hne : valid = true → (s.window.filter id).length ≠ 4 := fun hv e => by have := hg hv; simp [hr' e] at this
    refine ⟨hlen, ?_, fun _ => ?_⟩
    · simp only [TF.count, tf_step_window]
      cases valid
      · simp at hle; omega
      · have := hne rfl
        simp at hle; omega
    · simp only [TF.count, tf_step_window, tf_step_ready_eq, tf_count_mod tfaw _ h5 hc]
      intro h4
      cases valid
      · simp at hle
        have : (s.window.filter id).length = 4 := by omega
        simp [this, hr' this]
      · have := hne rfl
        simp at hle
        have : (s.window.filter id).length = 3 := by omega
        simp [this]

theorem tfinv_init (tfaw : Nat) : TfInv tfaw (TF.init (some tfaw)) :=
  ⟨by simp [TF.init], by simp [TF.init, TF.count], by simp [TF.init, TF.count]⟩

/-- **Four-activate window**: from reset, whatever is requested, any `tfaw` consecutive controller
cycles contain at most four gated activates (the window register *is* the last `tfaw` strobes). -/
theorem tfaw_window (tfaw : Nat) (wants : List Bool) :
    TfInv tfaw (wants.foldl (fun s w => TF.step (some tfaw) s (w && s.ready)) (TF.init (some tfaw))) :=
  Run.foldl_inv _ (TfInv tfaw) (fun _ => True) (fun s _ h _ => tf_step tfaw s _ (fun hv => (Bool.and_eq_true _ _ ▸ hv).2) h)
    wants _ (tfinv_init tfaw) (fun _ _ => trivial)

/-! ### bank machine: tRCD and tRP chains (ghost counters on top of C02's invariant) -/
section bm
open BankMachine C02

/-- ghosts: cycles since the last accepted ACT / since the last accepted PRE or auto-precharge start -/
def gStep (g : Nat) : Cmd → Nat
  | .act _ => 1
  | _ => g + 1

/-- the tRCD chain counts `g` exactly; REGULAR, the only state that offers RD / WR, has `tRCD` behind it once the row is open -/
def InvT (c : Cfg) (s : State) (g : Nat) : Prop :=
  match s.fsm with
  | .trcd k => g = k + 1 ∧ k + 1 < c.tRCD
  | .regular => s.rowOpened = true → c.tRCD ≤ g
  | _ => True

/-- **tRCD**: every accepted RD/WR is at least tRCD controller cycles after the ACT that opened the row -/
theorem trcd_respected (c : Cfg) (s : State) (g : Nat) (i : In) (h : InvT c s g) :
    let r := step c s i
    let cmd := cmdOf r.1 r.2 i.ready
    (∀ ap, cmd = .cas ap → c.tRCD ≤ g) ∧ InvT c r.1 (gStep g cmd) := by
  obtain ⟨f, f', cmd, ro', ef, ef', ecmd, ero, tr⟩ := BmTiming.step_trans c s i
  simp only [InvT, ef, ef', ecmd, ero] at h ⊢
  cases tr with
  -- the ACT restarts `g` and enters the chain, or goes straight to REGULAR when tRCD ≤ 1
  | act _ _ hd => exact ⟨nofun, rfl, by omega⟩
  | actShort _ _ hd => exact ⟨nofun, fun _ => show c.tRCD ≤ 1 by omega⟩
  | trcdCount k hk => exact ⟨nofun, by simp only [gStep]; omega⟩
  | trcdDone k hk => exact ⟨nofun, fun _ => by simp only [gStep]; omega⟩
  -- a CAS needs the row open, and REGULAR with the row open has `tRCD ≤ g`
  | cas _ _ h3 => exact ⟨fun _ _ => h h3, fun _ => Nat.le_succ_of_le (h h3)⟩
  | casAp _ _ h3 => exact ⟨fun _ _ => h h3, trivial⟩
  | casWait _ _ h3 => exact ⟨nofun, fun _ => Nat.le_succ_of_le (h h3)⟩
  | regIdle => exact ⟨nofun, fun hro => Nat.le_succ_of_le (h hro)⟩
  | refDone => exact ⟨nofun, nofun⟩
  | _ => exact ⟨nofun, trivial⟩

def pStep (p : Nat) (s s' : State) : Cmd → Nat
  | .pre => 1
  | _ => if s.fsm == .autoprecharge && s'.fsm != .autoprecharge then 1 else p + 1

/-- `p` = cycles since the precharge (explicit PRE accepted, or the auto-precharge state left) -/
def InvP (c : Cfg) (s : State) (p : Nat) : Prop :=
  match s.fsm with
  | .trp k => p = k + 1 ∧ k + 1 < c.tRP
  | .activate => c.tRP ≤ p
  | _ => True

/-- **tRP**: every accepted ACT is at least tRP controller cycles after the precharge of that bank;
the hypothesis `hreg` says the bank was precharged long ago when the machine goes from REGULAR (row
closed by refresh or never opened) straight to ACTIVATE — the refresh case is covered by the
refresher's own PREA→(tRP)→REF→(tRFC) timeline (C04). -/
theorem trp_respected (c : Cfg) (s : State) (p : Nat) (i : In) (h : InvP c s p)
    (hreg : s.fsm = .regular → c.tRP ≤ p + 1) :
    let r := step c s i
    let cmd := cmdOf r.1 r.2 i.ready
    (∀ row, cmd = .act row → c.tRP ≤ p) ∧ InvP c r.1 (pStep p s r.1 cmd) := by
  obtain ⟨f, f', cmd, ro', ef, ef', ecmd, ero, tr⟩ := BmTiming.step_trans c s i
  simp only [InvP, pStep, ef, ef', ecmd] at h hreg ⊢
  cases tr with
  -- the precharge (PRE accepted, or AUTOPRECHARGE left) restarts `p` and enters the chain, or ACTIVATE at once when tRP ≤ 1
  | pre _ _ _ hd | apDone _ _ hd => exact ⟨nofun, rfl, by omega⟩
  | preShort _ _ _ hd | apDoneShort _ _ hd => exact ⟨nofun, show c.tRP ≤ 1 by omega⟩
  | trpCount k hk => exact ⟨nofun, by simp; omega, by omega⟩
  | trpDone k hk => exact ⟨nofun, show c.tRP ≤ p + 1 by omega⟩
  | act | actShort => exact ⟨fun _ _ => h, trivial⟩
  | actWait => exact ⟨nofun, Nat.le_succ_of_le h⟩
  | toActivate => exact ⟨nofun, hreg rfl⟩
  | _ => exact ⟨nofun, trivial⟩

end bm

/-- **Worst phase**: two commands issued `c` controller cycles apart, on any phases `p₁ p₂ < n` of their
cycles, are at least `c·n − (n−1)` DRAM clocks apart (time = cycle·n + phase). -/
theorem worst_phase (t1 t2 n p1 p2 c : Nat) (hp1 : p1 < n) (hc : t1 + c ≤ t2) :
    c * n - (n - 1) ≤ (t2 * n + p2) - (t1 * n + p1) := by
  have h1 : (t1 + c) * n ≤ t2 * n := Nat.mul_le_mul_right n hc
  rw [Nat.add_mul] at h1
  omega

example : (txRun 3 (TX.init (some 3)) 3 [true, true, true, true, true, true, true, true]).1.ready = false := by decide
example : TfInv 6 (TF.init (some 6)) := tfinv_init 6

end C03
