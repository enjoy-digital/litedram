/-
C13: the DRAM-backed FIFO is lossless, ordered and bounded.
-/
import LitedramVerif.Model.DramFifo
import LitedramVerif.Proofs.Queue
import LitedramVerif.Spec.FifoSpec
import LitedramVerif.Spec.FifoWitness
namespace C13
open DramFifo

def CInv (depth : Nat) (c : Ctrl) : Prop :=
  c.level ≤ depth ∧ c.produce < depth ∧ c.consume < depth ∧ c.produce = (c.consume + c.level) % depth

theorem cinv_init (depth : Nat) (h : 0 < depth) : CInv depth {} := by
  simp [CInv, h]

theorem CInv.level_le {depth : Nat} {c : Ctrl} (h : CInv depth c) : c.level ≤ depth := h.1
theorem CInv.produce_lt {depth : Nat} {c : Ctrl} (h : CInv depth c) : c.produce < depth := h.2.1
theorem CInv.consume_lt {depth : Nat} {c : Ctrl} (h : CInv depth c) : c.consume < depth := h.2.2.1
theorem CInv.produce_eq {depth : Nat} {c : Ctrl} (h : CInv depth c) : c.produce = (c.consume + c.level) % depth := h.2.2.2

theorem cinv_step (depth : Nat) (c : Ctrl) (write read : Bool) (hd : 0 < depth) (h : CInv depth c)
    (hw : write = true → c.writable depth = true) (hr : read = true → c.readable = true) :
    CInv depth (c.step depth write read) := by
  have hw' : write = true → c.level < depth := by simpa [Ctrl.writable] using hw
  have hr' : read = true → 0 < c.level := by simpa [Ctrl.readable] using hr
  simp only [Ctrl.step, Queue.succ_mod_wrap _ _ h.produce_lt, Queue.succ_mod_wrap _ _ h.consume_lt]
  exact ⟨Queue.level_step_le h.level_le hw' _, Queue.pointer_step_lt _ h.produce_lt, Queue.pointer_step_lt _ h.consume_lt,
    Queue.pointers_step h.produce_eq hr'⟩

/-- **No unread word is overwritten.** While the invariant holds and the FIFO is writable, the slot about to be
written is none of the `level` slots that still hold unread words. -/
theorem write_slot_is_free (depth : Nat) (c : Ctrl) (h : CInv depth c) (hw : c.level < depth) :
    ∀ j, j < c.level → (c.consume + j) % depth ≠ c.produce := by
  intro j hj
  rw [h.produce_eq]
  exact NatBits.ring_slot_ne _ _ depth (by omega) (by omega)

theorem step_gates (c : Cfg) (s : State) (i : In) :
    ((step c s i).2.dramWrite = true → s.ctrl.writable c.depth = true) ∧
    ((step c s i).2.dramRead = true → s.ctrl.readable = true) := by
  -- `ctrl.write = (writer's sink.valid ∧ ctrl.writable) ∧ writer's sink.ready`, `ctrl.read = ctrl.readable ∧ reader's sink.ready`
  constructor <;> intro h
  · have h' : ((_ && s.ctrl.writable c.depth) && _) = true := h
    simp only [Bool.and_eq_true] at h'
    exact h'.1.2
  · have h' : (s.ctrl.readable && _) = true := h
    simp only [Bool.and_eq_true] at h'
    exact h'.1

theorem step_ctrl (c : Cfg) (s : State) (i : In) :
    (step c s i).1.ctrl = s.ctrl.step c.depth (step c s i).2.dramWrite (step c s i).2.dramRead := rfl

def run (c : Cfg) : State → List In → State
  | s, [] => s
  | s, i :: is => run c (step c s i).1 is

/-- **Bounded, for every producer/consumer/port schedule.** From reset the number of words held in DRAM never
exceeds the depth, the pointers never leave the buffer and stay `level` apart, in every FIFO shape (with or
without bypass, every width ratio) - hence (`write_slot_is_free`) a write never lands on an unread word. -/
theorem level_bounded (c : Cfg) (hd : 0 < c.depth) (ins : List In) :
    CInv c.depth (run c (State.init c) ins).ctrl := by
  suffices ∀ s, CInv c.depth s.ctrl → CInv c.depth (run c s ins).ctrl from
    this _ (cinv_init c.depth hd)
  induction ins with
  | nil => intro s h; exact h
  | cons i is ih =>
    intro s h
    exact ih _ (cinv_step c.depth s.ctrl _ _ hd h (step_gates c s i).1 (step_gates c s i).2)

theorem port_addresses (c : Cfg) (s : State) (i : In) :
    (step c s i).2.w.cmdAddr = c.base + s.ctrl.produce ∧ (step c s i).2.r.cmdAddr = c.base + s.ctrl.consume :=
  ⟨rfl, rfl⟩

/-- count the DRAM writes and reads of a run -/
def counts (c : Cfg) : State → List In → Nat × Nat
  | _, [] => (0, 0)
  | s, i :: is =>
    let o := (step c s i).2
    let rest := counts c (step c s i).1 is
    (rest.1 + (if o.dramWrite then 1 else 0), rest.2 + (if o.dramRead then 1 else 0))

/-- the step of `pointers_count`: `w` writes and `r` reads so far -/
theorem counts_step (depth : Nat) (c : Ctrl) (wr rd : Bool) (w r : Nat) (hd : 0 < depth)
    (hr : rd = true → 0 < c.level) (hle : r ≤ w) (hl : c.level = w - r)
    (hpw : c.produce = w % depth) (hcr : c.consume = r % depth) :
    r + (if rd then 1 else 0) ≤ w + (if wr then 1 else 0) ∧
    (c.step depth wr rd).level = w + (if wr then 1 else 0) - (r + (if rd then 1 else 0)) ∧
    (c.step depth wr rd).produce = (w + (if wr then 1 else 0)) % depth ∧
    (c.step depth wr rd).consume = (r + (if rd then 1 else 0)) % depth := by
  simp only [Ctrl.step, hpw, hcr, Queue.succ_mod_wrap _ _ (Nat.mod_lt w hd), Queue.succ_mod_wrap _ _ (Nat.mod_lt r hd), Nat.mod_add_mod]
  cases wr <;> cases hrd : rd <;> simp only [if_true, Bool.false_eq_true, if_false, Nat.add_zero, and_true]
  · exact ⟨hle, hl⟩
  · have := hr hrd; omega
  · omega
  · have := hr hrd; omega

/-- **Words come back in the order they were stored, across any number of pointer wrap-arounds.** After any run
from reset with `w` DRAM writes and `r` DRAM reads: `r ≤ w`, the level is `w - r`, the next write goes to slot
`w mod depth` and the next read to slot `r mod depth` - so the k-th read fetches the slot of the k-th write. -/
theorem pointers_count (c : Cfg) (hd : 0 < c.depth) (ins : List In) :
    let fin := (run c (State.init c) ins).ctrl
    let n := counts c (State.init c) ins
    n.2 ≤ n.1 ∧ fin.level = n.1 - n.2 ∧ fin.produce = n.1 % c.depth ∧ fin.consume = n.2 % c.depth := by
  suffices ∀ (s : State) (w r : Nat), r ≤ w → s.ctrl.level = w - r → s.ctrl.produce = w % c.depth →
      s.ctrl.consume = r % c.depth →
      r + (counts c s ins).2 ≤ w + (counts c s ins).1 ∧
      (run c s ins).ctrl.level = w + (counts c s ins).1 - (r + (counts c s ins).2) ∧
      (run c s ins).ctrl.produce = (w + (counts c s ins).1) % c.depth ∧
      (run c s ins).ctrl.consume = (r + (counts c s ins).2) % c.depth by
    simpa using this (State.init c) 0 0 (Nat.le_refl _) rfl rfl rfl
  induction ins with
  | nil => intro s w r hle hl hp hc; exact ⟨hle, hl, hp, hc⟩
  | cons i is ih =>
    intro s w r hle hl hp hc
    obtain ⟨h1, h2, h3, h4⟩ := counts_step c.depth s.ctrl (step c s i).2.dramWrite (step c s i).2.dramRead w r hd
      (fun h => by simpa [Ctrl.readable] using (step_gates c s i).2 h) hle hl hp hc
    simpa only [run, counts, Nat.add_assoc, Nat.add_comm (counts c (step c s i).1 is).1, Nat.add_comm (counts c (step c s i).1 is).2]
      using ih (step c s i).1 _ _ h1 h2 h3 h4

/-! ### the stream claim is false of the bypass FIFO on ports wider than the stream (known finding) -/

/-- **A word is invented.** On the inputs of Spec/FifoWitness.lean (ratio 2, seven words 1..7, consumer blocked at
first) the model - which the harness shows to be cycle-exact with the real LiteDRAMFIFO on these very inputs - accepts
`[1..7]` and delivers `[1..7, 0]`: the zero that pads the half-filled DRAM word in PUMP_PRECONVERTER reaches the source. -/
theorem bypass_partial_word_invents_a_word :
    FifoWitness.streams FifoWitness.cfg (State.init FifoWitness.cfg) FifoWitness.inputs =
      ([1, 2, 3, 4, 5, 6, 7], [1, 2, 3, 4, 5, 6, 7, 0]) := by
  rfl

/-! The full-strength stream statement (source stream = sink stream for every schedule) is therefore not provable for
`with_bypass` on ratio > 1. For the other shapes it is evaluated on the real FIFO by the harness with Spec/FifoSpec.lean;
what is proved for every schedule and every shape is the DRAM-side bookkeeping above (bounded, no overwrite of unread
words, read-back in write order across wrap-around). -/

example : CInv 3 { level := 2, produce := 1, consume := 2 } := by simp [CInv]
example : (0 : Nat) < 3 := by decide

end C13
