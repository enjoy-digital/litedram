/-
C13, the ring buffer as a queue: `_LiteDRAMFIFOCtrl`'s pointer/level logic (`DramFifo.Ctrl.step`, the model's transcription)
over an ideal word store refines a FIFO queue, for every depth and every schedule of gated writes and reads, across any
number of pointer wrap-arounds: the words still stored are, oldest first, the slots `consume, consume+1, …` (`queueOf`); a
write appends, a read returns and removes the head.  The gating itself (a write only when writable, a read only when readable)
is what `C13.step_gates` proves of the whole FIFO; the DMA engines between the controller and the DRAM are C12's.
-/
import LitedramVerif.Props.C13
namespace C13
open DramFifo

structure Ring where
  ctrl : Ctrl := {}
  mem : Nat → Nat := fun _ => 0

structure ROp where
  write : Bool
  data : Nat
  read : Bool

def Ring.wr (depth : Nat) (r : Ring) (o : ROp) : Bool := o.write && r.ctrl.writable depth
def Ring.rd (r : Ring) (o : ROp) : Bool := o.read && r.ctrl.readable

/-- one clock; returns the word read -/
def Ring.step (depth : Nat) (r : Ring) (o : ROp) : Ring × Option Nat :=
  ({ ctrl := r.ctrl.step depth (r.wr depth o) (r.rd o),
     mem := if r.wr depth o then (fun a => if a = r.ctrl.produce then o.data else r.mem a) else r.mem },
   if r.rd o then some (r.mem r.ctrl.consume) else none)

/-- the stored words, oldest first -/
def queueOf (depth : Nat) (r : Ring) : List Nat := (List.range r.ctrl.level).map fun j => r.mem ((r.ctrl.consume + j) % depth)

theorem queueOf_eq_window (depth : Nat) (r : Ring) : queueOf depth r = Queue.window r.mem depth r.ctrl.consume r.ctrl.level := rfl

theorem ring_step_queue (depth : Nat) (r : Ring) (o : ROp) (h : CInv depth r.ctrl) :
    (r.step depth o).2.toList ++ queueOf depth (r.step depth o).1 =
      queueOf depth r ++ (if r.wr depth o then [o.data] else []) ∧
    CInv depth (r.step depth o).1.ctrl := by
  have hw : r.wr depth o = true → r.ctrl.writable depth = true := fun e => (Bool.and_eq_true_iff.mp e).2
  have hr : r.rd o = true → r.ctrl.readable = true := fun e => (Bool.and_eq_true_iff.mp e).2
  refine ⟨?_, cinv_step depth r.ctrl _ _ (Nat.zero_lt_of_lt h.consume_lt) h hw hr⟩
  have hc := h.consume_lt
  have he := h.produce_eq
  have := Queue.window_step (get := r.mem) (get' := (r.step depth o).1.mem) (d := o.data) hc
    (fun e => by simpa [Ctrl.writable] using hw e) (fun e => by simpa [Ctrl.readable] using hr e)
    (fun e => by simp [Ring.step, e, he]) (fun a ha => by
      simp only [Ring.step]
      split
      next e => exact if_neg (he ▸ ha e)
      next => rfl)
  simp only [queueOf_eq_window, Ring.step, Ctrl.step, Queue.succ_mod_wrap _ _ hc]
  cases hrv : r.rd o <;> simp only [hrv] at this ⊢ <;> exact this

def ringRun (depth : Nat) : Ring → List ROp → Ring
  | r, [] => r
  | r, o :: os => ringRun depth (r.step depth o).1 os

/-- (words written, words read), in time order -/
def ringHist (depth : Nat) : Ring → List ROp → List Nat × List Nat
  | _, [] => ([], [])
  | r, o :: os =>
    let rest := ringHist depth (r.step depth o).1 os
    ((if r.wr depth o then [o.data] else []) ++ rest.1, ((r.step depth o).2).toList ++ rest.2)

theorem ring_from (depth : Nat) (os : List ROp) :
    ∀ r : Ring, CInv depth r.ctrl →
      queueOf depth r ++ (ringHist depth r os).1 = (ringHist depth r os).2 ++ queueOf depth (ringRun depth r os) := by
  induction os with
  | nil => intro r _; simp [ringHist, ringRun]
  | cons o os ih =>
    intro r h
    obtain ⟨hq, hinv⟩ := ring_step_queue depth r o h
    exact Queue.hist_cons hq (ih _ hinv)

/-- **The ring buffer is a queue** (every depth > 0, every schedule, unbounded time, any number of wrap-arounds): from reset, the
words read are, in order, the words written; what has not been read yet is exactly what the slots from `consume` on hold. -/
theorem ring_buffer_is_a_queue (depth : Nat) (hd : 0 < depth) (os : List ROp) :
    (ringHist depth {} os).1 = (ringHist depth {} os).2 ++ queueOf depth (ringRun depth {} os) := by
  simpa [queueOf] using ring_from depth os {} (cinv_init depth hd)

/-- non-vacuity: depth 3, seven words pushed against a slow reader: the pointers wrap twice, the words come back in order -/
def opsR : List ROp :=
  [⟨true, 1, false⟩, ⟨true, 2, false⟩, ⟨true, 3, true⟩, ⟨true, 4, true⟩, ⟨true, 5, false⟩, ⟨true, 6, true⟩, ⟨true, 6, true⟩,
   ⟨true, 7, true⟩, ⟨false, 0, true⟩, ⟨false, 0, true⟩, ⟨false, 0, true⟩]

example : (ringHist 3 {} opsR).2 = [1, 2, 3, 4, 5, 6, 7] ∧ (ringHist 3 {} opsR).1 = [1, 2, 3, 4, 5, 6, 7] := by decide

end C13
