/-
C12, stream level (all FIFO depths ≥ 1, buffered or not, every producer / consumer / port schedule, unbounded time):
`writer_data_in_order` and `reader_stream_in_order`.
Both are the FIFO shapes' conservation law (`Fifo.step_conserve`) lifted over histories by `Queue.hist_cons`; that the reader's two
FIFOs are popped together, and that the data FIFO has room for every returned word, is `C12.reader_accounting`.
-/
import LitedramVerif.Props.C12
namespace C12
open Dma Fifo

def wRun (c : Dma.Cfg) : WState → List WIn → WState
  | s, [] => s
  | s, i :: is => wRun c (wstep c s i).1 is

/-- (data of the accepted pairs = issued commands, data words taken by the port), both in time order -/
def wHist (c : Dma.Cfg) : WState → List WIn → List Nat × List Nat
  | _, [] => ([], [])
  | s, i :: is =>
    let o := (wstep c s i).2
    let rest := wHist c (wstep c s i).1 is
    ((if o.cmdValid && i.cmdReady then [i.sinkData] else []) ++ rest.1,
     (if o.wdataValid && i.wdataReady then [o.wdata] else []) ++ rest.2)

/-- a pair is taken from the producer exactly when its command is taken by the port, and the command carries the pair's address -/
theorem writer_command_is_the_pair (c : Dma.Cfg) (s : WState) (i : WIn) :
    ((wstep c s i).2.sinkReady && i.sinkValid) = ((wstep c s i).2.cmdValid && i.cmdReady) ∧
    (wstep c s i).2.cmdAddr = i.sinkAddr :=
  ⟨Bool.and_right_comm _ _ _, rfl⟩

theorem writer_from (c : Dma.Cfg) (hd : 1 ≤ c.depth) (is : List WIn) :
    ∀ s : WState, WF (dataCfg c) s.fifo →
      contents s.fifo ++ (wHist c s is).1 = (wHist c s is).2 ++ contents (wRun c s is).fifo := by
  induction is with
  | nil => intro s _; simp [wHist, wRun]
  | cons i is ih =>
    intro s hw
    simp only [wHist, writer_accepts]
    exact Queue.hist_cons (step_conserve (dataCfg c) hd s.fifo hw (i.sinkValid && i.cmdReady) i.sinkData i.wdataReady 0)
      (ih (wstep c s i).1 (wf_step (dataCfg c) hd s.fifo hw _ _ _))

/-- **Writer: data paired with its own address, exactly once, in order** (from reset). -/
theorem writer_data_in_order (c : Dma.Cfg) (hd : 1 ≤ c.depth) (is : List WIn) :
    (wHist c {} is).1 = (wHist c {} is).2 ++ contents (wRun c {} is).fifo := by
  simpa [contents] using writer_from c hd is {} (wf_init (dataCfg c))

def rRun (c : Dma.Cfg) : RState → List RIn → RState
  | s, [] => s
  | s, i :: is => rRun c (rstep c s i).1 is

structure RHist where
  lasts : List Bool            -- end-of-stream marks of the accepted addresses (= read commands taken by the port), in order
  rets : List Nat              -- words the port returned and the reader took, in order
  emitted : List (Nat × Bool)  -- (data, last) handed to the consumer, in order

def rHist (c : Dma.Cfg) : RState → List RIn → RHist
  | _, [] => ⟨[], [], []⟩
  | s, i :: is =>
    let o := (rstep c s i).2
    let rest := rHist c (rstep c s i).1 is
    ⟨(if o.cmdValid && i.cmdReady then [i.sinkLast] else []) ++ rest.lasts,
     (if i.rdataValid && o.rdataReady then [i.rdata] else []) ++ rest.rets,
     (if o.srcValid && i.srcReady then [(o.srcData, o.srcLast)] else []) ++ rest.emitted⟩

/-- environment: the reader stays enabled, and the port returns a word only for a read that is outstanding (more reservations
than buffered words) -/
def EnvS (c : Dma.Cfg) : RState → List RIn → Prop
  | _, [] => True
  | s, i :: is =>
    i.enable = true ∧
    (i.rdataValid = true → (contents s.fifo).length < (contents s.res).length) ∧
    EnvS c (rstep c s i).1 is

/-- an address is taken from the producer exactly when its read command is taken by the port, with that address and mark -/
theorem reader_command_is_the_address (c : Dma.Cfg) (s : RState) (i : RIn) :
    ((rstep c s i).2.sinkReady && i.sinkValid) = ((rstep c s i).2.cmdValid && i.cmdReady) ∧
    (rstep c s i).2.cmdAddr = i.sinkAddr ∧ (rstep c s i).2.cmdLast = i.sinkLast := by
  refine ⟨?_, rfl, rfl⟩
  simp only [rstep]
  generalize Fifo.sinkReady (resCfg c) s.res _ = x
  cases x <;> cases i.enable <;> cases i.sinkValid <;> cases i.cmdReady <;> rfl

/-- every word the port returns is taken by the reader (the native read-data channel cannot be back-pressured: a word that is
not taken is lost) -/
def rTaken (c : Dma.Cfg) : RState → List RIn → Bool
  | _, [] => true
  | s, i :: is => (!i.rdataValid || (rstep c s i).2.rdataReady) && rTaken c (rstep c s i).1 is

theorem reader_emits (c : Dma.Cfg) (s : RState) (i : RIn) (hen : i.enable = true)
    (hfr : rFValid c s i = true → rResValid c s i = true) :
    (if (rstep c s i).2.srcValid && i.srcReady then [((rstep c s i).2.srcData, (rstep c s i).2.srcLast)] else []) =
      if rResReady c s i then [((Fifo.srcData (dataCfg c) s.fifo i.rdata).getD 0, (Fifo.srcData (resCfg c) s.res i.sinkLast).getD false)]
      else [] := by
  rw [rstep_srcValid, rstep_srcData, rstep_srcLast, rResReady, rFReady, hen]
  cases hf : rFValid c s i
  · simp
  · simp [hfr hf]

theorem reader_from (c : Dma.Cfg) (hd : 1 ≤ c.depth) (is : List RIn) :
    ∀ s : RState, WF (resCfg c) s.res → WF (dataCfg c) s.fifo → (contents s.fifo).length ≤ (contents s.res).length →
      EnvS c s is →
      contents s.res ++ (rHist c s is).lasts = (rHist c s is).emitted.map (·.2) ++ contents (rRun c s is).res ∧
      contents s.fifo ++ (rHist c s is).rets = (rHist c s is).emitted.map (·.1) ++ contents (rRun c s is).fifo ∧
      rTaken c s is = true := by
  induction is with
  | nil => intro s _ _ _ _; simp [rHist, rRun, rTaken]
  | cons i is ih =>
    intro s hwr hwf hlen ⟨hen, hret, henv'⟩
    have acc := reader_accounting c hd s i hwr hwf hlen hret
    have cr := res_conserve c hd s i hwr acc.reserved
    have cf := step_conserve (dataCfg c) hd s.fifo hwf i.rdataValid i.rdata (rFReady i) 0
    obtain ⟨ih1, ih2, ih3⟩ := ih (rstep c s i).1 (wf_step (resCfg c) hd s.res hwr _ _ _) (wf_step (dataCfg c) hd s.fifo hwf _ _ _)
      acc.len_le henv'
    simp only [rHist, rRun, rTaken, Lists.not_or_of_imp acc.room, ih3, reader_emits c s i hen acc.reserved, List.map_append,
      Lists.map_ite_singleton, Bool.and_self]
    exact ⟨Queue.hist_cons cr ih1, Queue.hist_cons cf ih2, trivial⟩

/-- **Reader: one word per accepted address, in order, with the end-of-stream mark on the matching word** (from reset, while
enabled, with a memory that returns only requested words): the emitted (data, last) pairs are position by position the returned
words and the marks of the accepted addresses; what has not been emitted yet is still in the two FIFOs. -/
theorem reader_stream_in_order (c : Dma.Cfg) (hd : 1 ≤ c.depth) (is : List RIn) (henv : EnvS c {} is) :
    (rHist c {} is).lasts = (rHist c {} is).emitted.map (·.2) ++ contents (rRun c {} is).res ∧
    (rHist c {} is).rets = (rHist c {} is).emitted.map (·.1) ++ contents (rRun c {} is).fifo := by
  have := reader_from c hd is {} (wf_init (resCfg c)) (wf_init (dataCfg c)) (by simp [contents]) henv
  simpa [contents] using ⟨this.1, this.2.1⟩

/-- **Reader: no returned word is lost, however long the consumer stalls** - every FIFO depth ≥ 1, buffered or not (this lifts the
`buffered = false` hypothesis of `C12.reader_never_overruns`): whenever the port returns a word, the reader takes it. -/
theorem reader_never_loses_a_word (c : Dma.Cfg) (hd : 1 ≤ c.depth) (is : List RIn) (henv : EnvS c {} is) :
    rTaken c {} is = true :=
  (reader_from c hd is {} (wf_init (resCfg c)) (wf_init (dataCfg c)) (by simp [contents]) henv).2.2

def envSB (c : Dma.Cfg) : RState → List RIn → Bool
  | _, [] => true
  | s, i :: is =>
    i.enable && (!i.rdataValid || decide ((contents s.fifo).length < (contents s.res).length)) && envSB c (rstep c s i).1 is

theorem envSB_sound (c : Dma.Cfg) (is : List RIn) : ∀ s, envSB c s is = true → EnvS c s is := by
  induction is with
  | nil => intro _ _; trivial
  | cons i is ih =>
    intro s h
    simp only [envSB, Bool.and_eq_true, Bool.or_eq_true, Bool.not_eq_true', decide_eq_true_eq] at h
    exact ⟨h.1.1, fun hv => h.1.2.resolve_left fun h' => Bool.noConfusion (hv.symm.trans h'), ih _ h.2⟩

/-- a reader with 2-deep FIFOs (buffered data FIFO): three addresses (the last one marked) are accepted, their words come back
while the consumer stalls, then the consumer takes them: the hypothesis holds and the three words come out in order, marked -/
def cfgD : Dma.Cfg := { depth := 2, buffered := true }
def rin (sv : Bool) (a : Nat) (l : Bool) (rv : Bool) (d : Nat) (sr : Bool) : RIn :=
  { enable := true, sinkValid := sv, sinkAddr := a, sinkLast := l, cmdReady := true, rdataValid := rv, rdata := d, srcReady := sr }
def insD : List RIn :=
  [rin true 5 false false 0 false, rin true 6 false false 0 false, rin true 7 true true 50 false, rin true 7 true true 60 false,
   rin true 7 true false 0 true, rin true 7 true false 0 true, rin false 0 false true 70 true, rin false 0 false false 0 true,
   rin false 0 false false 0 true]

example : envSB cfgD {} insD = true ∧ (rHist cfgD {} insD).emitted = [(50, false), (60, false), (70, true)] ∧
    (rHist cfgD {} insD).lasts = [false, false, true] := by decide

/-- the writer with a 2-deep FIFO: three pairs accepted while the port takes data late; the data words come out in order -/
def win (sv : Bool) (a d : Nat) (cr wr : Bool) : WIn :=
  { sinkValid := sv, sinkAddr := a, sinkData := d, sinkLast := false, cmdReady := cr, wdataReady := wr }
def insW : List WIn := [win true 1 10 true false, win true 2 20 true false, win true 3 30 true false, win true 3 30 true true,
  win false 0 0 false true, win false 0 0 false true]

/-- the writer with a 2-deep FIFO: the port takes data late, so the third pair is only accepted once a word has left; the data
words come out in the order of the accepted pairs -/
example : (wHist { depth := 2, buffered := false } {} insW).1 = [10, 20] ∧
    (wHist { depth := 2, buffered := false } {} insW).2 = [10, 20] := by decide

end C12
