/-
C19 — the whole simulation PHY/DRAM model against an abstract multi-bank DRAM with data.

`simphy_refines_abstract_dram`: for every geometry, burst length, latency pair, mask granularity and initial memory image,
and for **every legal trace of unbounded length**, `SimPhy.step` (the transcription of litedram/phy/model.py that is
co-simulated against the real module) produces cycle by cycle the read strobe and read data of `aDramStep`: one abstract bank
per bank (`ABank`/`aStep`, Props/C19_Bank.lean), each performing the operation the cycle's phases ask of it
(`cmdFor`: the first phase that addresses the bank, decoded per JEDEC with A10 = auto-precharge / precharge-all), the write data
and masks of the cycle in which a burst is stored, and a `read_latency`-stage delay line.
A legal cycle (`cycLegal`): at most one ACT, one PRE(-all), one WR and one RD on the phases, at most one of them for any one
bank (this is what the one-hot `Case` routing of the model can carry: with two commands of a kind it silently drops both -
shown by `oneHot_spec`), and every bank's operation legal for its abstract bank (`legalOp`).  This covers every cycle the
litedram controller issues (C02: one row command and one column command per cycle, on different banks, or a refresh sequence).
 * `oneHot_spec`      the `Case(flags, {2**np: …})` routing selects phase i iff it is the only one with the flag up
 * `matches_cmdFor`   the strobes the model routes to a bank ask for exactly the operation `cmdFor` specifies
 * `rp_step`          one cycle: same outputs, correspondence (`RP`: `Rb` on every bank, same read pipeline) kept
 * `legalTraceB_sound` an executable form of the legality hypothesis (used for the example below)
Together with `C19.read_latency_exact` this is the data path the whole-core model of C01 rests on.
What remains outside: equality with the *independent* reference `Spec/DramData` as one theorem (`simphy_equals_reference_full`;
the check runs both on the same random legal traces) - `ADram` is a second, much smaller specification (40 lines) whose
per-bank step is spelled out independently of the model's arrays, pipelines and index arithmetic.
-/
import LitedramVerif.Props.C19_Bank
namespace C19
open SimPhy

/-- at most one flag is up -/
def Uniq (flags : List Bool) : Prop :=
  ∀ i j, i < flags.length → j < flags.length → flags.getD i false = true → flags.getD j false = true → i = j

theorem oneHot_spec (flags : List Bool) (hu : Uniq flags) :
    (∀ i, oneHot flags = some i ↔ (i < flags.length ∧ flags.getD i false = true)) ∧
    (oneHot flags = none ↔ ∀ i, i < flags.length → flags.getD i false = false) := by
  -- `L`, the indices whose flag is up, has no repetition and by `hu` its members are all equal: `[]` or `[a]`
  unfold oneHot
  generalize hL : (List.range flags.length).filter (fun i => flags.getD i false) = L
  have hmem : ∀ i, (i < flags.length ∧ flags.getD i false = true) ↔ i ∈ L := by intro i; simp [← hL]
  have hnd : L.Nodup := hL ▸ List.Nodup.sublist List.filter_sublist List.nodup_range
  have hnone : (∀ i, i < flags.length → flags.getD i false = false) ↔ ∀ i, i ∉ L := by simp [← hmem]
  simp only [hmem, hnone]
  rcases L with _ | ⟨a, _ | ⟨b, t⟩⟩
  · simp
  · simp [eq_comm]
  · have ha := (hmem a).mpr (by simp)
    have hb := (hmem b).mpr (by simp)
    have := hu a b ha.1 hb.1 ha.2 hb.2
    simp [this] at hnd

/-- the bank tests of the model's four `Case` bodies (`phase.bank == nb`, for PRE `| phase.address[10]`) in one -/
def targets (p : Phase) (nb : Nat) : Bool :=
  ((isAct p || isWr p || isRd p) && p.bank == nb) || (isPre p && (p.bank == nb || p.address.testBit 10))

/-- operands as the `Case` bodies cut them (`activate_row`, `_column_address`); A10 of WR / RD is the auto-precharge flag, which
the model does not look at and `aStep` obeys; REF, MRS, ZQC are `nop`, to a bank of the model as well -/
def opOfPhase (c : Cfg) (p : Phase) : BOp :=
  if isAct p then .act (p.address % 2 ^ c.rowbits) else if isPre p then .pre
  else if isWr p then .wr (colOf c p.address) (p.address.testBit 10)
  else if isRd p then .rd (colOf c p.address) (p.address.testBit 10) else .nop

/-- the first phase that `targets` the bank (`CycOk.one`: no second one does); the model routes kind by kind through `oneHot` (`bankIn`) -/
def cmdFor (c : Cfg) (phases : List Phase) (nb : Nat) : BOp :=
  match (List.range phases.length).find? (fun i => targets (phases.getD i default) nb) with
  | some i => opOfPhase c (phases.getD i default)
  | none => .nop

/-- a cycle the model's routing handles: at most one command of each kind on the phases, at most one command for bank `nb` -/
structure CycOk (phases : List Phase) (nb : Nat) : Prop where
  uAct : Uniq (phases.map isAct)
  uPre : Uniq (phases.map isPre)
  uWr : Uniq (phases.map isWr)
  uRd : Uniq (phases.map isRd)
  one : ∀ i j, i < phases.length → j < phases.length → targets (phases.getD i default) nb = true →
    targets (phases.getD j default) nb = true → i = j

theorem oneHot_map (phases : List Phase) (f : Phase → Bool) (hu : Uniq (phases.map f)) (i : Nat) :
    oneHot (phases.map f) = some i ↔ i < phases.length ∧ f (phases.getD i default) = true := by
  rw [(oneHot_spec _ hu).1 i, List.length_map]
  refine and_congr_right fun hi => ?_
  rw [List.getD_eq_getElem?_getD, List.getD_eq_getElem?_getD, List.getElem?_map, List.getElem?_eq_getElem hi]
  rfl

theorem routed_iff (phases : List Phase) (f tg : Phase → Bool) (hu : Uniq (phases.map f)) :
    (match oneHot (phases.map f) with | some i => tg (phases.getD i default) | none => false) = true ↔
      ∃ i, i < phases.length ∧ f (phases.getD i default) = true ∧ tg (phases.getD i default) = true := by
  constructor
  · intro h
    cases hs : oneHot (phases.map f) with
    | none => rw [hs] at h; cases h
    | some j => rw [hs] at h; exact ⟨j, ((oneHot_map phases f hu j).mp hs).1, ((oneHot_map phases f hu j).mp hs).2, h⟩
  · rintro ⟨i, hi, hf, ht⟩
    rw [(oneHot_map phases f hu i).mpr ⟨hi, hf⟩]; exact ht

theorem kind_cases (p : Phase) :
    (isAct p = true ∧ isPre p = false ∧ isWr p = false ∧ isRd p = false) ∨
    (isAct p = false ∧ isPre p = true ∧ isWr p = false ∧ isRd p = false) ∨
    (isAct p = false ∧ isPre p = false ∧ isWr p = true ∧ isRd p = false) ∨
    (isAct p = false ∧ isPre p = false ∧ isWr p = false ∧ isRd p = true) ∨
    (isAct p = false ∧ isPre p = false ∧ isWr p = false ∧ isRd p = false) := by
  simp only [isAct, isPre, isWr, isRd]
  cases sel p <;> cases p.rasN <;> cases p.casN <;> cases p.weN <;> simp

section decode
variable (c : Cfg) (nb r col : Nat) (ap : Bool) (p : Phase)

theorem isAct_opOfPhase : (opOfPhase c p).isAct = isAct p := by
  rcases kind_cases p with h | h | h | h | h <;> simp [opOfPhase, h, BOp.isAct]
theorem isPre_opOfPhase : (opOfPhase c p).isPre = isPre p := by
  rcases kind_cases p with h | h | h | h | h <;> simp [opOfPhase, h, BOp.isPre]
theorem isWr_opOfPhase : (opOfPhase c p).isWr = isWr p := by
  rcases kind_cases p with h | h | h | h | h <;> simp [opOfPhase, h, BOp.isWr]
theorem isRd_opOfPhase : (opOfPhase c p).isRd = isRd p := by
  rcases kind_cases p with h | h | h | h | h <;> simp [opOfPhase, h, BOp.isRd]

theorem opOfPhase_eq_act : opOfPhase c p = .act r → isAct p = true ∧ p.address % 2 ^ c.rowbits = r := by
  rcases kind_cases p with h | h | h | h | h <;> simp [opOfPhase, h]
theorem opOfPhase_eq_wr : opOfPhase c p = .wr col ap → isWr p = true ∧ colOf c p.address = col := by
  rcases kind_cases p with h | h | h | h | h <;> simp +contextual [opOfPhase, h]
theorem opOfPhase_eq_rd : opOfPhase c p = .rd col ap → isRd p = true ∧ colOf c p.address = col := by
  rcases kind_cases p with h | h | h | h | h <;> simp +contextual [opOfPhase, h]

theorem targets_of_isAct : isAct p = true → targets p nb = (p.bank == nb) := by
  rcases kind_cases p with h | h | h | h | h <;> simp [targets, h]
theorem targets_of_isPre : isPre p = true → targets p nb = (p.bank == nb || p.address.testBit 10) := by
  rcases kind_cases p with h | h | h | h | h <;> simp [targets, h]
theorem targets_of_isWr : isWr p = true → targets p nb = (p.bank == nb) := by
  rcases kind_cases p with h | h | h | h | h <;> simp [targets, h]
theorem targets_of_isRd : isRd p = true → targets p nb = (p.bank == nb) := by
  rcases kind_cases p with h | h | h | h | h <;> simp [targets, h]

end decode

theorem cmdFor_cases (c : Cfg) (phases : List Phase) (nb : Nat) :
    (cmdFor c phases nb = .nop ∧ ∀ i, i < phases.length → targets (phases.getD i default) nb = false) ∨
    ∃ i, i < phases.length ∧ targets (phases.getD i default) nb = true ∧ cmdFor c phases nb = opOfPhase c (phases.getD i default) := by
  unfold cmdFor
  cases hfind : (List.range phases.length).find? (fun i => targets (phases.getD i default) nb) with
  | none =>
    exact .inl ⟨rfl, fun i hi => by simpa using List.find?_eq_none.mp hfind i (List.mem_range.mpr hi)⟩
  | some i =>
    exact .inr ⟨i, List.mem_range.mp (List.mem_of_find?_eq_some hfind), by simpa using List.find?_some hfind, rfl⟩

/-- one strobe of `bankIn`, for any kind: flag `f` on the phases, `isK` on operations, bank test `tg` -/
theorem strobe_cmdFor (c : Cfg) (phases : List Phase) (nb : Nat) (h : CycOk phases nb) (f tg : Phase → Bool) (isK : BOp → Bool)
    (hu : Uniq (phases.map f)) (hft : ∀ p, f p = true → targets p nb = tg p) (hK : ∀ p, isK (opOfPhase c p) = f p)
    (hnop : isK .nop = false) :
    (match oneHot (phases.map f) with | some i => tg (phases.getD i default) | none => false) = isK (cmdFor c phases nb) := by
  rw [Bool.eq_iff_iff, routed_iff phases f tg hu]
  rcases cmdFor_cases c phases nb with ⟨hop, hnone⟩ | ⟨i0, hi0, ht0, hop⟩
  · rw [hop, hnop]
    refine ⟨fun ⟨i, hi, hf, ht⟩ => ?_, fun e => by cases e⟩
    rw [← hft _ hf, hnone i hi] at ht; cases ht
  · rw [hop, hK]
    refine ⟨fun ⟨i, hi, hf, ht⟩ => ?_, fun hf => ⟨i0, hi0, hf, by rw [← hft _ hf]; exact ht0⟩⟩
    rw [← hft _ hf] at ht
    rw [← h.one i i0 hi hi0 ht ht0]; exact hf

/-- one data field `g` of `bankIn`, for any kind `f` -/
theorem data_cmdFor {α : Type} (c : Cfg) (phases : List Phase) (nb : Nat) (f : Phase → Bool) (hu : Uniq (phases.map f))
    (g : Phase → α) (d : α) (op : BOp) (v : α) (hop : cmdFor c phases nb = op) (hne : op ≠ .nop)
    (hd : ∀ p, opOfPhase c p = op → f p = true ∧ g p = v) :
    (match oneHot (phases.map f) with | some i => g (phases.getD i default) | none => d) = v := by
  rcases cmdFor_cases c phases nb with ⟨hnop, _⟩ | ⟨i0, hi0, _, hop0⟩
  · exact absurd (hop.symm.trans hnop) hne
  · obtain ⟨hf, hv⟩ := hd _ (hop0.symm.trans hop)
    rw [(oneHot_map phases f hu i0).mpr ⟨hi0, hf⟩]; exact hv

/-- the strobes the model routes to bank `nb` ask for exactly the operation the cycle's phases specify -/
theorem matches_cmdFor (c : Cfg) (phases : List Phase) (nb : Nat) (h : CycOk phases nb) :
    Matches (bankIn c phases nb) (cmdFor c phases nb) :=
  { act := strobe_cmdFor c phases nb h isAct (fun p => p.bank == nb) BOp.isAct h.uAct (targets_of_isAct nb) (isAct_opOfPhase c) rfl
    pre := strobe_cmdFor c phases nb h isPre (fun p => p.bank == nb || p.address.testBit 10) BOp.isPre h.uPre
      (targets_of_isPre nb) (isPre_opOfPhase c) rfl
    bw := strobe_cmdFor c phases nb h isWr (fun p => p.bank == nb) BOp.isWr h.uWr (targets_of_isWr nb) (isWr_opOfPhase c) rfl
    rd := strobe_cmdFor c phases nb h isRd (fun p => p.bank == nb) BOp.isRd h.uRd (targets_of_isRd nb) (isRd_opOfPhase c) rfl
    actRow := fun r hr => data_cmdFor c phases nb isAct h.uAct (fun p => p.address % 2 ^ c.rowbits) 0 _ r hr nofun
      (opOfPhase_eq_act c r)
    bwCol := fun col ap hr => data_cmdFor c phases nb isWr h.uWr (fun p => colOf c p.address) 0 _ col hr nofun
      (opOfPhase_eq_wr c col ap)
    rdCol := fun col ap hr => data_cmdFor c phases nb isRd h.uRd (fun p => colOf c p.address) 0 _ col hr nofun
      (opOfPhase_eq_rd c col ap) }

/-- `rpipe`: the `read_latency` registers model.py puts between `banks_read` / `banks_read_data` and the phases' `rddata_valid` / `rddata` -/
structure ADram where
  abanks : Nat → ABank
  rpipe : List (Bool × Nat)

/-- one controller cycle of the abstract DRAM: every bank performs the operation the phases ask of it (`cmdFor`), with the
write data / masks of this cycle; the read strobe and the (wired-OR of the) banks' read data enter a delay line of
`read_latency` stages -/
def aDramStep (c : Cfg) (k : Nat) (s : ADram) (phases : List Phase) : ADram × Out :=
  let word := wrdataOf c phases
  let mask := wrmaskOf c phases
  let st (nb : Nat) := aStep c.writeLatency (2 ^ k) (c.dataWidth / 8) (c.weGranularity != 0) (s.abanks nb) (cmdFor c phases nb) word mask
  let rd := (List.range c.nbanks).any fun nb => (cmdFor c phases nb).isRd
  let data := (List.range c.nbanks).foldl (fun acc nb => acc ||| (st nb).2.getD 0) 0
  let rstages := (rd, data) :: s.rpipe
  ({ abanks := fun nb => (st nb).1, rpipe := rstages.take c.readLatency },
   { rddataValid := (rstages.getD c.readLatency (false, 0)).1, rddata := (rstages.getD c.readLatency (false, 0)).2 })

structure RP (c : Cfg) (k : Nat) (ss : State) (s : ADram) : Prop where
  banks : ∀ nb, nb < c.nbanks → Rb c k ss.banks[nb]! (s.abanks nb)
  rpipe : ss.rpipe = s.rpipe

/-- a cycle the abstract DRAM accepts: the routing handles it (`CycOk`) and every bank's operation is legal -/
def cycLegal (c : Cfg) (k : Nat) (s : ADram) (phases : List Phase) : Prop :=
  ∀ nb, nb < c.nbanks → CycOk phases nb ∧ legalOp c (s.abanks nb) (cmdFor c phases nb)

/-- over `List.range`, as `aDramStep` has it -/
theorem step_out (c : Cfg) (s : State) (phases : List Phase) :
    let bs (nb : Nat) := bankStep c s.banks[nb]! (bankIn c phases nb) (wrdataOf c phases) (wrmaskOf c phases)
    let rstages := ((List.range c.nbanks).any fun nb => (bs nb).2.1,
      (List.range c.nbanks).foldl (fun acc nb => acc ||| (bs nb).2.2) 0) :: s.rpipe
    (step c s phases).1.rpipe = rstages.take c.readLatency ∧
    (step c s phases).2 = { rddataValid := (rstages.getD c.readLatency (false, 0)).1, rddata := (rstages.getD c.readLatency (false, 0)).2 } := by
  simp only [step_eq, Lists.any_map_range, Lists.foldl_map_range, and_self]

/-- **one controller cycle of the whole model** on a legal cycle: same outputs, correspondence kept -/
theorem rp_step (c : Cfg) (k : Nat) (hw : c.burst * c.nphases = 2 ^ k) (hk : k ≤ c.colbits) (ss : State) (s : ADram)
    (h : RP c k ss s) (phases : List Phase) (hl : cycLegal c k s phases) :
    RP c k (step c ss phases).1 (aDramStep c k s phases).1 ∧ (step c ss phases).2 = (aDramStep c k s phases).2 := by
  have hb := fun nb (hnb : nb < c.nbanks) => rb_step_in c k hw hk _ _ (h.banks nb hnb) _ (hl nb hnb).2 _
    (matches_cmdFor c phases nb (hl nb hnb).1) (wrdataOf c phases) (wrmaskOf c phases)
  obtain ⟨o1, o2⟩ := step_out c ss phases
  rw [Lists.any_congr_mem _ _ _ fun i hi => (hb i (List.mem_range.mp hi)).2.1,
    Lists.foldl_congr_mem _ _ _ _ fun acc i hi => by rw [(hb i (List.mem_range.mp hi)).2.2],
    h.rpipe] at o1 o2
  exact ⟨⟨fun nb hnb => by rw [step_bank c ss phases nb hnb]; exact (hb nb hnb).1, o1⟩, o2⟩

def outsA (c : Cfg) (k : Nat) : ADram → List (List Phase) → List Out
  | _, [] => []
  | s, ph :: rest => (aDramStep c k s ph).2 :: outsA c k (aDramStep c k s ph).1 rest

def outsS (c : Cfg) : State → List (List Phase) → List Out
  | _, [] => []
  | s, ph :: rest => (step c s ph).2 :: outsS c (step c s ph).1 rest

def legalTrace (c : Cfg) (k : Nat) : ADram → List (List Phase) → Prop
  | _, [] => True
  | s, ph :: rest => cycLegal c k s ph ∧ legalTrace c k (aDramStep c k s ph).1 rest

/-- the abstract DRAM that corresponds to the model after reset -/
def aDramInit (c : Cfg) (k : Nat) (initMem : Nat → Array Nat) : ADram :=
  { abanks := fun nb => aInit c k (SimPhy.init c initMem).banks[nb]!, rpipe := List.replicate c.readLatency (false, 0) }

theorem outsS_eq_outsA (c : Cfg) (k : Nat) (hw : c.burst * c.nphases = 2 ^ k) (hk : k ≤ c.colbits) (tr : List (List Phase)) :
    ∀ (ss : State) (s : ADram), RP c k ss s → legalTrace c k s tr → outsS c ss tr = outsA c k s tr := by
  induction tr with
  | nil => intro _ _ _ _; rfl
  | cons ph rest ih =>
    intro ss s h hl
    obtain ⟨h1, h2⟩ := rp_step c k hw hk ss s h ph hl.1
    simp only [outsS, outsA, h2, ih _ _ h1 hl.2]

/-- links `C19.read_latency_exact` (on `outs`) to the refinement theorem below (on `outsS`) -/
theorem outs_eq_outsS (c : Cfg) (tr : List (List Phase)) :
    ∀ s : State, outs c s tr = (outsS c s tr).map fun o => (o.rddataValid, o.rddata) := by
  induction tr with
  | nil => intro _; rfl
  | cons ph rest ih => intro s; simp only [outs, outsS, List.map_cons, ih]

/-- **C19, the whole simulation model, every geometry / latency / initial image, every legal trace of unbounded length**
(any number of phases; up to one command of each kind per cycle, on different banks): the model's read strobe and read
data are, cycle by cycle, those of the abstract multi-bank DRAM -/
theorem simphy_refines_abstract_dram (c : Cfg) (k : Nat) (hw : c.burst * c.nphases = 2 ^ k) (hk : k ≤ c.colbits)
    (initMem : Nat → Array Nat) (tr : List (List Phase)) (hl : legalTrace c k (aDramInit c k initMem) tr) :
    outsS c (SimPhy.init c initMem) tr = outsA c k (aDramInit c k initMem) tr :=
  outsS_eq_outsA c k hw hk tr _ _ ⟨fun nb hnb => rb_init c k hw hk initMem nb hnb, rfl⟩ hl

-- executable legality; the C19 driver evaluates it on the traces of the check
def uniqB (flags : List Bool) : Bool :=
  (List.range flags.length).all fun i => (List.range flags.length).all fun j =>
    !(flags.getD i false) || !(flags.getD j false) || i == j

theorem atMostOne_of_all (n : Nat) (t : Nat → Bool)
    (h : ((List.range n).all fun i => (List.range n).all fun j => !t i || !t j || i == j) = true) :
    ∀ i j, i < n → j < n → t i = true → t j = true → i = j := by
  intro i j hi hj h1 h2
  simp only [List.all_eq_true, List.mem_range] at h
  simpa [h1, h2] using h i hi j hj

theorem uniqB_sound (flags : List Bool) (h : uniqB flags = true) : Uniq flags :=
  atMostOne_of_all _ (fun i => flags.getD i false) h

def cycOkB (phases : List Phase) (nb : Nat) : Bool :=
  uniqB (phases.map isAct) && uniqB (phases.map isPre) && uniqB (phases.map isWr) && uniqB (phases.map isRd) &&
  ((List.range phases.length).all fun i => (List.range phases.length).all fun j =>
    !(targets (phases.getD i default) nb) || !(targets (phases.getD j default) nb) || i == j)

theorem cycOkB_sound (phases : List Phase) (nb : Nat) (h : cycOkB phases nb = true) : CycOk phases nb := by
  simp only [cycOkB, Bool.and_eq_true, and_assoc] at h
  obtain ⟨hAct, hPre, hWr, hRd, hOne⟩ := h
  exact { uAct := uniqB_sound _ hAct, uPre := uniqB_sound _ hPre, uWr := uniqB_sound _ hWr, uRd := uniqB_sound _ hRd,
          one := atMostOne_of_all _ (fun i => targets (phases.getD i default) nb) hOne }

def legalOpB (c : Cfg) (a : ABank) : BOp → Bool
  | .nop => true
  | .act r => a.openRow.isNone && decide (r < 2 ^ c.rowbits) && a.inflight.all (· == none)
  | .pre => a.inflight.all (· == none)
  | .wr col _ => a.openRow.isSome && decide (col < 2 ^ c.colbits)
  | .rd col _ => a.openRow.isSome && decide (col < 2 ^ c.colbits)

theorem legalOpB_sound (c : Cfg) (a : ABank) (op : BOp) (h : legalOpB c a op = true) : legalOp c a op := by
  cases op with
  | nop => trivial
  | _ => simpa [legalOpB, legalOp, and_assoc] using h

def legalTraceB (c : Cfg) (k : Nat) : ADram → List (List Phase) → Bool
  | _, [] => true
  | s, ph :: rest =>
    ((List.range c.nbanks).all fun nb => cycOkB ph nb && legalOpB c (s.abanks nb) (cmdFor c ph nb)) &&
    legalTraceB c k (aDramStep c k s ph).1 rest

theorem legalTraceB_sound (c : Cfg) (k : Nat) (tr : List (List Phase)) : ∀ s, legalTraceB c k s tr = true → legalTrace c k s tr := by
  induction tr with
  | nil => intro _ _; trivial
  | cons ph rest ih =>
    intro s h
    simp only [legalTraceB, Bool.and_eq_true, List.all_eq_true, List.mem_range] at h
    exact ⟨fun nb hnb => ⟨cycOkB_sound _ _ (h.1 nb hnb).1, legalOpB_sound _ _ _ (h.1 nb hnb).2⟩, ih _ h.2⟩

/-! ### non-vacuity: 2 phases, 2 banks; ACT b0 / ACT b1, WR b0 with data on the next cycle (write latency 1), a cycle with
a RD of b0 on phase 0 *and* a PRE of b1 on phase 1, then the read data appears `read_latency` = 2 cycles later -/
def cfgP : Cfg := { nphases := 2, nbanks := 2, rowbits := 2, colbits := 3, burst := 2, phaseBits := 8, writeLatency := 1,
                    readLatency := 2, weGranularity := 8 }
def idleP (d m : Nat) : Phase := { csN := 1, rasN := true, casN := true, weN := true, bank := 0, address := 0, wrdata := d, wrdataMask := m }
def cmdP (ras cas we : Bool) (bank address : Nat) : Phase :=
  { csN := 0, rasN := !ras, casN := !cas, weN := !we, bank := bank, address := address, wrdata := 0, wrdataMask := 0 }
def traceP : List (List Phase) :=
  [[cmdP true false false 0 1, idleP 0 0],            -- ACT bank 0 row 1
   [idleP 0 0, cmdP true false false 1 2],            -- ACT bank 1 row 2
   [cmdP false true true 0 4, idleP 0 0],             -- WR bank 0 col 4
   [idleP 0xAB 0, idleP 0xCD 0],                      -- its data: 0xCDAB
   [cmdP false true false 0 4, cmdP true false true 1 0],   -- RD bank 0 col 4 | PRE bank 1
   [idleP 0 0, idleP 0 0], [idleP 0 0, idleP 0 0]]

example : legalTrace cfgP 2 (aDramInit cfgP 2 fun _ => #[]) traceP :=
  legalTraceB_sound _ _ _ _ (by decide +kernel)
example : (outsA cfgP 2 (aDramInit cfgP 2 fun _ => #[]) traceP).map (fun o => (o.rddataValid, o.rddata)) =
    [(false, 0), (false, 0), (false, 0), (false, 0), (false, 0), (false, 0), (true, 0xCDAB)] := by decide +kernel

end C19
