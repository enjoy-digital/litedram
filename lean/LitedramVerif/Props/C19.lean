/-
C19 — the bundled DRAM simulation model agrees with an independent DRAM model.

`Model/SimPhy.lean` transcribes litedram/phy/model.py and is co-simulated against it; `Spec/DramData.lean`
is the independent reference.  Proved here:
 * `word_index`       the model's flattened memory index `(row·ncols | col) >> log2(B)` is
                      `row·(ncols/B) + col/B`: rows and bursts never alias (for every geometry)
 * `column_decode`    the model's column (after commit 1b95f4f) is the reference's JEDEC column
 * `read_latency_exact` the read strobe and data shown in cycle t + read_latency are exactly what the commands of cycle t
                      fetched (generic delay-line lemma `pipe_delay`), for every trace and configuration
 * `bank_refines`     under legal commands (at most one command per bank per cycle, ACT only on a bank the
                      reference holds precharged) "reference bank open on row r ⇒ model bank active on row r"
                      is an inductive invariant — including after auto-precharge, which the model ignores
The complete statement (same read data at the read latency, same final memory, for every legal trace) is
`simphy_equals_reference_full`; it is evaluated by the check on random legal traces against the
implementation and the transcription, not proved.
-/
import LitedramVerif.Model.SimPhy
import LitedramVerif.Spec.DramData
import LitedramVerif.Proofs.NatBits
import LitedramVerif.Proofs.Queue
namespace C19

/-- `(row·N | col) >> k = row·(N/2^k) + col/2^k` for `col < N = 2^c`, `k ≤ c`: the model's word index
separates rows and bursts for every geometry -/
theorem word_index (row col c k : Nat) (hk : k ≤ c) (hcol : col < 2 ^ c) :
    ((row * 2 ^ c) ||| col) >>> k = row * 2 ^ (c - k) + col / 2 ^ k := by
  rw [Nat.mul_comm row, ← Nat.two_pow_add_eq_or_of_lt hcol row, Nat.shiftRight_eq_div_pow,
    ← NatBits.two_pow_mul (Nat.add_sub_cancel' hk), Nat.mul_assoc, Nat.mul_add_div (Nat.two_pow_pos k), Nat.mul_comm]

/-- two different (row, burst) pairs never share a memory word -/
theorem word_index_injective (r1 b1 r2 b2 w : Nat) (h1 : b1 < w) (h2 : b2 < w)
    (h : r1 * w + b1 = r2 * w + b2) : r1 = r2 ∧ b1 = b2 := by
  rw [Nat.add_comm, Nat.mul_comm, Nat.add_comm (r2 * w), Nat.mul_comm r2] at h
  exact ⟨by rw [← NatBits.join_div r1 h1, h, NatBits.join_div r2 h2], by rw [← NatBits.join_mod r1 h1, h, NatBits.join_mod r2 h2]⟩

/-- the model's column (with commit 1b95f4f) is the reference's JEDEC column, for every address -/
theorem column_decode (colbits address : Nat) (sc : SimPhy.Cfg) (rc : DramData.Cfg)
    (h1 : sc.colbits = colbits) (h2 : rc.colbits = colbits) :
    SimPhy.colOf sc address = DramData.columnOf rc address := by
  simp [SimPhy.colOf, DramData.columnOf, h1, h2]

/-- what can happen to one bank in one controller cycle on a legal trace (one command per bank per cycle) -/
inductive BankCmd
  | none | act (row : Nat) | pre | cas (ap : Bool)

/-- the reference's view of the bank afterwards -/
def refNext (o : Option Nat) : BankCmd → Option Nat
  | .none => o
  | .act r => some r
  | .pre => Option.none
  | .cas ap => if ap then Option.none else o

/-- the model's `active`/`row` registers afterwards (`SimPhy.bankNext` with the decoded flags) -/
def simNext (active : Bool) (row : Nat) : BankCmd → Bool × Nat
  | .none => SimPhy.bankNext active row false false 0
  | .act r => SimPhy.bankNext active row false true r
  | .pre => SimPhy.bankNext active row true false 0
  | .cas _ => SimPhy.bankNext active row false false 0     -- the auto-precharge flag is ignored

/-- "reference bank open on row r ⇒ model bank active on row r" -/
def Refines (o : Option Nat) (active : Bool) (row : Nat) : Prop := ∀ r, o = some r → active = true ∧ row = r

/-- for every bank event, legal or not -/
theorem refines_next (o : Option Nat) (active : Bool) (row : Nat) (cmd : BankCmd) (h : Refines o active row) :
    Refines (refNext o cmd) (simNext active row cmd).1 (simNext active row cmd).2 := by
  intro r hr
  cases cmd with
  | none => exact h r hr
  | act r' => cases hr; exact ⟨rfl, rfl⟩
  | pre => cases hr
  | cas ap =>
    cases ap with
    | false => exact h r hr
    | true => cases hr

/-- **Bank-state refinement**: the invariant is preserved by every legal bank event — in particular the
model's ignoring of auto-precharge is harmless, because a legal trace re-activates the bank (reloading
the row register) before it is used again. -/
theorem bank_refines (o : Option Nat) (active : Bool) (row : Nat) (cmd : BankCmd)
    (hlegal : ∀ r, cmd = .act r → o = none) (h : Refines o active row) :
    Refines (refNext o cmd) (simNext active row cmd).1 (simNext active row cmd).2 :=
  refines_next o active row cmd h

theorem access_row (o : Option Nat) (active : Bool) (row r : Nat) (h : Refines o active row) (ho : o = some r) :
    active = true ∧ row = r := h r ho

/-- run both models on a trace and compare read outputs cycle by cycle -/
def agree (sc : SimPhy.Cfg) (rc : DramData.Cfg) : SimPhy.State → DramData.State → List (List SimPhy.Phase) → Bool
  | _, _, [] => true
  | ss, rs, ps :: rest =>
    let (ss', so) := SimPhy.step sc ss ps
    let (rs', ro) := DramData.step rc rs (ps.map fun p => { csN := p.csN, rasN := p.rasN, casN := p.casN, weN := p.weN, bank := p.bank,
                                                             address := p.address, wrdata := p.wrdata, wrdataMask := p.wrdataMask })
    (so.rddataValid == ro.valid) && (!ro.valid || so.rddata == ro.data) && agree sc rc ss' rs' rest

/-- legality of a trace, judged on the reference: no illegal command, at most one command per bank and
per kind in a controller cycle, no precharge/activate of a bank and no read of a location while a write to
it is still in the reference's write queue -/
def legalFrom (rc : DramData.Cfg) : DramData.State → List (List DramData.Phase) → Bool
  | _, [] => true
  | rs, ps :: rest =>
    let cmds := (ps.take rc.nphases).filterMap (DramData.decode rc)
    let bankOf : DramData.Cmd → Option Nat
      | .act b _ => some b | .pre b => some b | .wr b _ _ => some b | .rd b _ _ => some b | .prea => none
    let banks := cmds.filterMap bankOf
    let distinctBanks := banks.eraseDups.length == banks.length && (!cmds.contains .prea || cmds.length == 1)
    let disturb := cmds.any fun c =>
      match c with
      | .act b _ | .pre b => rs.wq.any (·.2.bank == b)
      | .prea => !rs.wq.isEmpty
      | .rd b col ap => rs.wq.any (fun w => w.2.bank == b && (ap || (DramData.rowOf rs.openRow b == some w.2.row && w.2.burst == col / rc.burstCols)))
      | .wr _ _ _ => false
    let rs' := (DramData.step rc rs ps).1
    distinctBanks && !disturb && rs'.err.isNone && legalFrom rc rs' rest

/-- the complete property — **not proved** (evaluated by the check on random legal traces against both the
implementation and the transcription): for matching configurations and every legal trace, the model
returns the reference's read data at the read latency. -/
def simphy_equals_reference_full : Prop :=
  ∀ (sc : SimPhy.Cfg) (rc : DramData.Cfg) (tr : List (List SimPhy.Phase)),
    sc.nphases = rc.nphases → sc.nbanks = rc.nbanks → sc.colbits = rc.colbits → sc.rowbits = rc.rowbits →
    sc.burst * sc.nphases = rc.burstCols → sc.writeLatency = rc.writeLatency → sc.readLatency = rc.readLatency →
    1 ≤ rc.readLatency →
    legalFrom rc (DramData.init fun _ => 0) (tr.map fun ps => ps.map fun p =>
      { csN := p.csN, rasN := p.rasN, casN := p.casN, weN := p.weN, bank := p.bank, address := p.address, wrdata := p.wrdata,
        wrdataMask := p.wrdataMask }) = true →
    agree sc rc (SimPhy.init sc fun _ => #[]) (DramData.init fun _ => 0) tr = true

section latency
open SimPhy
def pipeStep {α : Type} (L : Nat) (d : α) (p : List α) (x : α) : List α × α := (Queue.shift L p x, (x :: p).getD L d)

def pipeRun {α : Type} (L : Nat) (d : α) : List α → List α → List α
  | _, [] => []
  | p, x :: xs => (pipeStep L d p x).2 :: pipeRun L d (pipeStep L d p x).1 xs

theorem pipeRun_getD {α : Type} (L : Nat) (d : α) (xs : List α) : ∀ (p : List α) (n : Nat), n < xs.length →
    (pipeRun L d p xs).getD n d = (xs.getD n d :: (xs.take n).foldl (Queue.shift L) p).getD L d := by
  induction xs with
  | nil => intro _ _ h; cases h
  | cons x xs ih =>
    intro p n hn
    cases n with
    | zero => rfl
    | succ n => exact ih _ n (Nat.lt_of_succ_lt_succ hn)

/-- **what leaves a delay line of length `L` at step `t + L` is what entered at step `t`** -/
theorem pipe_delay {α : Type} (L : Nat) (d : α) (xs p : List α) (t : Nat) (ht : t + L < xs.length) :
    (pipeRun L d p xs).getD (t + L) d = xs.getD t d := by
  rw [pipeRun_getD L d xs p _ ht]
  cases L with
  | zero => rfl
  | succ L =>
    -- the inputs so far: `xs.take t`, `xs[t]`, and `L` more that move it to stage `L` (`Queue.shift_tap`)
    have hlen : ((xs.drop (t + 1)).take L).length = L := by rw [List.length_take, List.length_drop]; omega
    have htap := Queue.shift_tap (L + 1) ((xs.take t).foldl (Queue.shift (L + 1)) p) xs[t] ((xs.drop (t + 1)).take L) (by omega) d
    rw [hlen] at htap
    rw [List.getD_cons_succ, List.take_add, List.drop_eq_getElem_cons (by omega), List.take_succ_cons, List.foldl_append,
      List.foldl_cons, htap, List.getD_eq_getElem?_getD, List.getElem?_eq_getElem (by omega), Option.getD_some]

/-- the read data a cycle's commands fetch: what the model would output in that very cycle with a read latency of 0 -/
def readNow (c : Cfg) (s : State) (ph : List Phase) : Bool × Nat :=
  let o := (step { c with readLatency := 0 } { s with rpipe := [] } ph).2
  (o.rddataValid, o.rddata)

def outs (c : Cfg) : State → List (List Phase) → List (Bool × Nat)
  | _, [] => []
  | s, ph :: rest => ((step c s ph).2.rddataValid, (step c s ph).2.rddata) :: outs c (step c s ph).1 rest

def fetched (c : Cfg) : State → List (List Phase) → List (Bool × Nat)
  | _, [] => []
  | s, ph :: rest => readNow c s ph :: fetched c (step c s ph).1 rest

theorem outs_eq_pipe (c : Cfg) (tr : List (List Phase)) :
    ∀ s : State, outs c s tr = pipeRun c.readLatency (false, 0) s.rpipe (fetched c s tr) := by
  induction tr with
  | nil => intro s; rfl
  | cons ph rest ih =>
    intro s
    -- by computation, the read path of `SimPhy.step` is `pipeStep` on `s.rpipe` fed with `readNow`
    simp only [outs, ih]
    rfl

theorem fetched_length (c : Cfg) (tr : List (List Phase)) : ∀ s, (fetched c s tr).length = tr.length := by
  induction tr with
  | nil => intro s; rfl
  | cons ph rest ih => intro s; simp [fetched, ih]

/-- **Read data is returned exactly `read_latency` cycles after the READ** (every trace, every configuration): the
`rddata_valid` / `rddata` the model shows in cycle `t + read_latency` are the read strobe and the memory word the commands
of cycle `t` fetched - nothing is lost, duplicated or reordered in the latency pipeline. -/
theorem read_latency_exact (c : Cfg) (s : State) (hs : s.rpipe.length = c.readLatency) (tr : List (List Phase)) (t : Nat)
    (ht : t + c.readLatency < tr.length) :
    (outs c s tr).getD (t + c.readLatency) (false, 0) = (fetched c s tr).getD t (false, 0) := by
  rw [outs_eq_pipe]
  exact pipe_delay _ _ _ _ t (by rw [fetched_length]; exact ht)

end latency

example : ((5 * 2 ^ 6) ||| 43) >>> 3 = 5 * 2 ^ 3 + 43 / 8 := by decide
example : Refines (some 7) true 7 := by intro r h; simp at h; exact ⟨rfl, h⟩

end C19
