/-
C09: AXI port - protocol-correct responses and memory semantics.
Theorems about Model/Axi.lean (burst-to-beat address generation, read-modify-write merging and granting,
reservation counters, arbitration), for every traffic and timing.
-/
import LitedramVerif.Model.Axi
import LitedramVerif.Proofs.FifoQueue
namespace C09
open Axi

/-- `simp` leaves `RmwFsm.read == RmwFsm.idle` (the `==` of a derived `DecidableEq`) as it is, but decides `decide (a = b)` -/
@[simp] theorem rmw_beq (a b : RmwFsm) : (a == b) = decide (a = b) := by cases a <;> cases b <;> rfl

theorem wrap13_id (x : Int) (h1 : -4096 ≤ x) (h2 : x < 4096) : wrap13 x = x := by
  unfold wrap13; omega

theorem step_next (aw : Nat) (b : B2B) (r : AxReq) (hne : b.count ≠ r.len % 256) :
    b.step aw r true =
      { count := (b.count + 1) % 256
        offset :=
          if r.burst == 2 && (beatAddr aw b r &&& (r.len % 256 * 2 ^ (r.size % 8)) % 4096) == (r.len % 256 * 2 ^ (r.size % 8)) % 4096
          then wrap13 (b.offset - ((r.len % 256 * 2 ^ (r.size % 8) % 4096 : Nat) : Int))
          else if r.burst == 1 || r.burst == 2 then wrap13 (b.offset + 2 ^ (r.size % 8)) else b.offset } := by
  simp [B2B.step, hne]

/-- FIXED bursts: the offset stays 0, every beat carries the burst's address; the beat counter counts the beats and
returns to 0 after beat `len` -/
theorem b2b_fixed (aw : Nat) (b : B2B) (r : AxReq) (hb : r.burst = 0) (ho : b.offset = 0) :
    (b.step aw r true).offset = 0 ∧
    (b.step aw r true).count = (if b.count = r.len % 256 then 0 else (b.count + 1) % 256) ∧
    beatAddr aw b r = r.addr % 2 ^ aw := by
  refine ⟨?_, ?_, ?_⟩
  · simp [B2B.step, hb, ho]
  · simp [B2B.step]
  · rw [beatAddr, ho, Int.add_zero, ← Int.natCast_emod, Int.toNat_natCast]

/-- INCR bursts that stay inside 4 KB: after `k` beats the offset is `k · 2^size`, so beat `k` addresses
`addr + k · 2^size` -/
theorem b2b_incr_step (aw : Nat) (b : B2B) (r : AxReq) (k : Nat) (hb : r.burst = 1)
    (hc : b.count = k) (ho : b.offset = ((k * 2 ^ (r.size % 8) : Nat) : Int))
    (hk : k < r.len % 256) (h4k : (r.len % 256 + 1) * 2 ^ (r.size % 8) ≤ 4096) :
    (b.step aw r true).count = k + 1 ∧ (b.step aw r true).offset = (((k + 1) * 2 ^ (r.size % 8) : Nat) : Int) := by
  have hlt : (k + 1) * 2 ^ (r.size % 8) < 4096 :=
    Nat.lt_of_lt_of_le ((Nat.mul_lt_mul_right (Nat.two_pow_pos _)).mpr (by omega)) h4k
  have e : ((k * 2 ^ (r.size % 8) : Nat) : Int) + (2 : Int) ^ (r.size % 8) = (((k + 1) * 2 ^ (r.size % 8) : Nat) : Int) := by
    rw [Nat.add_mul]; simp
  rw [step_next aw b r (by omega)]
  refine ⟨by simp only [hc]; omega, ?_⟩
  simp only [hb, ho, e, show ((1 : Nat) == 2) = false from rfl, Bool.false_and, Bool.false_eq_true, if_false,
    beq_self_eq_true, Bool.true_or, if_true]
  exact wrap13_id _ (by omega) (by omega)

theorem and_wrap_mask (x n s : Nat) (hsn : s ≤ n) (hx : x % 2 ^ s = 0) : x &&& (2 ^ n - 2 ^ s) = x % 2 ^ n := by
  apply Nat.eq_of_testBit_eq
  intro i
  have hlow : i < s → x.testBit i = false := fun hi => by
    rw [← NatBits.testBit_mod_two_pow_of_lt x hi, hx, Nat.zero_testBit]
  have hm : (2 ^ n - 2 ^ s).testBit i = (decide (i < n) && !decide (i < s)) := by
    have h1 : 2 ^ s ≤ 2 ^ n := Nat.pow_le_pow_right (by decide) hsn
    have h0 := Nat.two_pow_pos s
    have := Nat.testBit_two_pow_sub_succ (x := 2 ^ s - 1) (n := n) (by omega) i
    rwa [Nat.sub_add_cancel h0, Nat.testBit_two_pow_sub_one] at this
  rw [Nat.testBit_and, hm]
  by_cases hi : i < s
  · simp [hlow hi]
  · simp [hi, Bool.and_comm]

theorem add_le_of_dvd (C S y : Nat) (hC : S ∣ C) (hyS : S ∣ y) (hy : y < C) : y + S ≤ C :=
  Nat.le_of_lt_add_of_dvd (Nat.add_lt_add_right hy S) (Nat.dvd_add hyS (Nat.dvd_refl S)) hC

/-- positions inside the WRAP container of `C` bytes, beats of `S`: `a0` where the burst started, `y` the current beat, `off` the
offset register; nothing leaves the 13-bit range since `C ≤ 4096` -/
theorem wrap_next (C S a0 y : Nat) (off : Int) (hC : C ≤ 4096) (hdvd : S ∣ C) (hyS : S ∣ y) (ha0 : a0 < C) (hy : y < C)
    (ho : off = (y : Int) - (a0 : Int)) :
    (if y = C - S then wrap13 (off - ((C - S : Nat) : Int)) else wrap13 (off + (S : Int))) =
      (((y + S) % C : Nat) : Int) - (a0 : Int) := by
  have hle := add_le_of_dvd C S y hdvd hyS hy
  split
  · have : y + S = C := by omega
    rw [this, Nat.mod_self, wrap13_id _ (by omega) (by omega)]; omega
  · have : y + S < C := by omega
    rw [Nat.mod_eq_of_lt this, wrap13_id _ (by omega) (by omega)]; omega

theorem beatAddr_in_container (aw : Nat) (b : B2B) (r : AxReq) (C y : Nat) (hdaw : C ∣ 2 ^ aw)
    (hlt : r.addr < 2 ^ aw) (hy : y < C) (ho : b.offset = (y : Int) - ((r.addr % C : Nat) : Int)) :
    beatAddr aw b r = C * (r.addr / C) + y := by
  have hq : C * (r.addr / C) + r.addr % C = r.addr := Nat.div_add_mod r.addr C
  unfold beatAddr
  generalize r.addr % C = a0 at *
  generalize r.addr / C = q at *
  have hroom : C * q + C ≤ 2 ^ aw := add_le_of_dvd _ _ _ hdaw (Nat.dvd_mul_right ..) (by omega)
  rw [ho, show (r.addr : Int) + ((y : Int) - (a0 : Int)) = ((C * q + y : Nat) : Int) by omega,
    ← Int.natCast_emod, Int.toNat_natCast, Nat.mod_eq_of_lt (by omega)]

/-- `wrap_next` on `B2B.step`: container `2^n = (len + 1)·2^s`, `y` the current beat's position in it -/
theorem b2b_wrap_gen (aw : Nat) (b : B2B) (r : AxReq) (n s y : Nat)
    (hb : r.burst = 2) (hs : r.size % 8 = s) (hn : n ≤ 12) (hna : n ≤ aw) (hlt : r.addr < 2 ^ aw)
    (hlen : (r.len % 256 + 1) * 2 ^ s = 2 ^ n) (hk : b.count ≠ r.len % 256)
    (hy : y < 2 ^ n) (hyS : 2 ^ s ∣ y) (ho : b.offset = (y : Int) - ((r.addr % 2 ^ n : Nat) : Int)) :
    (b.step aw r true).count = (b.count + 1) % 256 ∧
    (b.step aw r true).offset = (((y + 2 ^ s) % 2 ^ n : Nat) : Int) - ((r.addr % 2 ^ n : Nat) : Int) := by
  generalize hL : r.len % 256 = L at *
  have hdvd : 2 ^ s ∣ 2 ^ n := ⟨L + 1, by rw [← hlen, Nat.mul_comm]⟩
  have hsn : s ≤ n := (Nat.pow_le_pow_iff_right (by decide)).mp (Nat.le_of_dvd (Nat.two_pow_pos _) hdvd)
  have hdaw : 2 ^ n ∣ 2 ^ aw := Nat.pow_dvd_pow 2 hna
  have hC : 2 ^ n ≤ 4096 := Nat.pow_le_pow_right (by decide) hn
  have hlen' : L * 2 ^ s + 2 ^ s = 2 ^ n := by rw [← hlen, Nat.add_mul, Nat.one_mul]
  have hLS : L * 2 ^ s % 4096 = 2 ^ n - 2 ^ s := by rw [Nat.mod_eq_of_lt (by omega)]; omega
  have hmask : ∀ x, 2 ^ s ∣ x → x &&& (2 ^ n - 2 ^ s) = x % 2 ^ n := fun x hx =>
    and_wrap_mask x n s hsn (Nat.mod_eq_zero_of_dvd hx)
  have hSi : ((2 : Int) ^ s) = ((2 ^ s : Nat) : Int) := by simp
  have hCpos : 0 < 2 ^ n := Nat.two_pow_pos _
  generalize 2 ^ n = C at *
  generalize hSg : 2 ^ s = S at *
  have hbeat := beatAddr_in_container aw b r C y hdaw hlt hy ho
  have hand : (C * (r.addr / C) + y) &&& (C - S) = y := by
    rw [hmask _ (Nat.dvd_add (Nat.dvd_trans hdvd (Nat.dvd_mul_right ..)) hyS), Nat.mul_add_mod, Nat.mod_eq_of_lt hy]
  rw [step_next aw b r (hL ▸ hk)]
  refine ⟨rfl, ?_⟩
  simp only [hb, hs, hL, hSg, hLS, hbeat, hand, hSi, beq_self_eq_true, Bool.true_and, beq_iff_eq]
  exact wrap_next C S (r.addr % C) y b.offset hC hdvd hyS (Nat.mod_lt _ hCpos) hy ho

/-- **WRAP bursts** (2, 4, 8 or 16 beats of up to 32 bytes, start address aligned to the beat size): one beat of the
address generator.  `a0` = start position inside the container, `y` = position of the
current beat; the next position is `(y + S) mod C`. -/
theorem b2b_wrap_step (aw : Nat) (b : B2B) (r : AxReq) (j k : Nat)
    (hb : r.burst = 2) (hj : j < 5) (hj0 : 0 < j) (hs : r.size % 8 < 6) (hlen : r.len % 256 + 1 = 2 ^ j)
    (hal : r.addr % 2 ^ (r.size % 8) = 0) (haw : j + r.size % 8 ≤ aw) (hlt : r.addr < 2 ^ aw)
    (hc : b.count = k) (hk : k < r.len % 256)
    (ho : b.offset = (((r.addr % 2 ^ (j + r.size % 8) + k * 2 ^ (r.size % 8)) % 2 ^ (j + r.size % 8) : Nat) : Int)
                      - ((r.addr % 2 ^ (j + r.size % 8) : Nat) : Int)) :
    (b.step aw r true).count = k + 1 ∧
    (b.step aw r true).offset = (((r.addr % 2 ^ (j + r.size % 8) + (k + 1) * 2 ^ (r.size % 8)) % 2 ^ (j + r.size % 8) : Nat) : Int)
                      - ((r.addr % 2 ^ (j + r.size % 8) : Nat) : Int) := by
  have hdvd : 2 ^ (r.size % 8) ∣ 2 ^ (j + r.size % 8) := Nat.pow_dvd_pow 2 (Nat.le_add_left ..)
  have hal' : 2 ^ (r.size % 8) ∣ r.addr := Nat.dvd_of_mod_eq_zero hal
  have h := b2b_wrap_gen aw b r (j + r.size % 8) _ _ hb rfl (by omega) haw hlt (by rw [hlen, Nat.pow_add])
    (by omega) (Nat.mod_lt _ (Nat.two_pow_pos _))
    ((Nat.dvd_mod_iff hdvd).mpr (Nat.dvd_add ((Nat.dvd_mod_iff hdvd).mpr hal') (Nat.dvd_mul_left ..))) ho
  rw [hc, Nat.mod_add_mod, Nat.add_assoc, ← Nat.succ_mul] at h
  exact ⟨h.1.trans (Nat.mod_eq_of_lt (by omega)), h.2⟩

/-- the native command address of a beat: byte address relative to the base, in words -/
theorem port_addr_def (c : Cfg) (a : Nat) : portAddr c a = ((a - c.base) / 2 ^ c.ashift) % 2 ^ c.paw := rfl

/-- **Partial strobes leave the other bytes intact.** Byte `b` of the merged word is the new byte where the strobe is
set and the byte read from memory where it is not. -/
theorem mergeBytes_byte (n old new strb b : Nat) (hb : b < n) :
    (mergeBytes n old new strb / 256 ^ b) % 256 =
      if strb.testBit b then (new / 256 ^ b) % 256 else (old / 256 ^ b) % 256 := by
  induction n generalizing old new strb b with
  | zero => omega
  | succ n ih =>
    simp only [mergeBytes]
    cases b with
    | zero =>
      simp only [Nat.testBit_zero, beq_iff_eq, decide_eq_true_eq]
      split <;> omega
    | succ b =>
      have hsel : (if strb % 2 == 1 then new % 256 else old % 256) < 256 := by split <;> omega
      have e : ∀ x : Nat, x / 256 ^ (b + 1) = x / 256 / 256 ^ b := by
        intro x; rw [Nat.pow_succ, Nat.mul_comm, Nat.div_div_eq_div_mul]
      rw [e, Nat.add_mul_div_left _ _ (by decide : 0 < 256), Nat.div_eq_of_lt hsel, Nat.zero_add,
        ih (old / 256) (new / 256) (strb / 2) b (by omega), e new, e old, Nat.testBit_succ]

/-- **The RMW access starts only on a drained write path** (fix 0dd7a15): the FSM leaves IDLE only when no command
is outstanding, the write buffer is empty, the address generator shows a valid beat, no read is in flight and a
response slot is free - so the beat on `axi.w` is the one `aw` points at. -/
theorem rmw_starts_only_when_drained (c : Cfg) (s : State) (i : In) (hr : c.rmw = true) (hi : s.rmwFsm = .idle) :
    (step c s i).1.rmwFsm =
      (if i.wValid && i.w.strb != 2 ^ c.nb - 1 && (s.rLevel == 0) &&
          (s.wLevel == 0 && Fifo.count s.wBuf == 0 && (!s.awBuf.q.isEmpty || !(s.awB.count == 0)) &&
            (!(s.awB.count == 0) || decide (s.wId.level + s.resp.level < c.wDepth)))
       then RmwFsm.read else RmwFsm.idle) := by
  simp only [step, hr, hi]
  -- the model's grant also has `!rQueue`, `!wQueue`; they follow from the rest: a pending partial beat stops the read path,
  -- an empty write buffer lets no write command through
  grind

/-- while the RMW access runs the regular write and read paths issue nothing, and W beats are not taken into the
buffer except the merged one -/
theorem rmw_blocks_regular_paths (c : Cfg) (s : State) (i : In) (hr : c.rmw = true) (hi : s.rmwFsm ≠ .idle) :
    (step c s i).2.cmdValid = (s.rmwFsm == .read || (s.rmwFsm == .write && !s.rmwCmdDone)) ∧
    (step c s i).2.arReady = Fifo.sinkReady bufCfg s.arBuf false := by
  cases hf : s.rmwFsm <;> simp [hf] at hi <;> simp [step, hr, hf, bne]

/-- READ issues a read, WRITE a write, both at the address of the beat `aw` points at; MODIFY stores the merge of
the word read with the W beat under its strobes; WRITE queues the merged word with all strobes set and takes the
W beat exactly when the buffer accepts it -/
theorem rmw_sequence (c : Cfg) (s : State) (i : In) (hr : c.rmw = true) :
    (s.rmwFsm = .read → (step c s i).2.cmdValid = true ∧ (step c s i).2.cmdWe = false ∧
      (step c s i).2.cmdAddr = portAddr c (beatAddr c.aw s.awB ((s.awBuf.q.head?).getD default)) ∧
      (step c s i).1.rmwFsm = (if i.cmdReady then RmwFsm.modify else RmwFsm.read)) ∧
    (s.rmwFsm = .modify → (step c s i).2.cmdValid = false ∧ (step c s i).2.rdataReady = true ∧
      (i.rdataValid = true → (step c s i).1.rmwFsm = .write ∧
        (step c s i).1.rmwData = mergeBytes c.nb i.rdata i.w.data i.w.strb)) ∧
    (s.rmwFsm = .write → (step c s i).2.cmdValid = !s.rmwCmdDone ∧
      ((step c s i).2.cmdValid = true → (step c s i).2.cmdWe = true ∧
        (step c s i).2.cmdAddr = portAddr c (beatAddr c.aw s.awB ((s.awBuf.q.head?).getD default)))) := by
  refine ⟨?_, ?_, ?_⟩
  · intro h; simp [step, hr, h]
  · intro h; simp [step, hr, h]; intro hv; simp [hv]
  · intro h; simp [step, hr, h]

/-- in the RMW states, excluded by `h`, the FSM drives `cmd`: `rmw_sequence` -/
theorem regular_cmd_source (c : Cfg) (s : State) (i : In) (h : (c.rmw && s.rmwFsm != .idle) = false)
    (hv : (step c s i).2.cmdValid = true) :
    ((step c s i).2.cmdWe = true ∧ s.grant = 0 ∧ s.wLevel < Fifo.count s.wBuf) ∨
    ((step c s i).2.cmdWe = false ∧ s.grant = 1 ∧ s.rLevel ≠ c.rDepth) := by
  simp only [step] at hv ⊢
  -- `cmdValid` is `wGo || rGo`, `cmdWe` is `wGo`; `wGo` carries `grant == 0` and `canWrite`, `rGo` `grant == 1` and `canRead`
  grind

/-- the step of `wLevel ≤ count wBuf` and of `rLevel ≤ rDepth` (there `cnt' = cnt`, `push = leave`) -/
theorem level_le (lev cnt cnt' : Nat) (take leave push : Bool)
    (hcnt : cnt' + (if leave then 1 else 0) = cnt + (if push then 1 else 0)) (h : lev ≤ cnt)
    (htake : take = true → lev < cnt) :
    (if take then (if !leave then lev + 1 else lev) else if leave then lev - 1 else lev) ≤ cnt' := by
  cases take <;> cases leave <;> simp at hcnt htake ⊢ <;> omega

theorem read_cmd_has_slot (c : Cfg) (s : State) (i : In) (h : (c.rmw && s.rmwFsm != .idle) = false)
    (hv : (step c s i).2.cmdValid = true) (hwe : (step c s i).2.cmdWe = false) : s.rLevel ≠ c.rDepth :=
  (regular_cmd_source c s i h hv).elim (fun hw => absurd hw.1 (by simp [hwe])) (·.2.2)

theorem write_taken_has_beat (c : Cfg) (s : State) (i : In) (hn : c.rmw = false)
    (hq : ((step c s i).2.cmdValid && i.cmdReady && (step c s i).2.cmdWe) = true) : s.wLevel < Fifo.count s.wBuf := by
  simp only [Bool.and_eq_true] at hq
  rcases regular_cmd_source c s i (by simp [hn]) hq.1.1 with hw | hr
  · exact hw.2.2
  · exact absurd hq.2 (by simp [hr.1])

theorem rlevel_step (c : Cfg) (s : State) (i : In) (h : s.rLevel ≤ c.rDepth) : (step c s i).1.rLevel ≤ c.rDepth := by
  -- `rq` = `rQueue`, `rd` = `rDequeue` of `step`
  obtain ⟨rq, rd, hrq, hlev⟩ : ∃ rq rd : Bool,
      rq = (!(c.rmw && (s.rmwFsm != .idle || (i.wValid && i.w.strb != 2 ^ c.nb - 1))) && (step c s i).2.cmdValid && i.cmdReady &&
        !(step c s i).2.cmdWe) ∧
      (step c s i).1.rLevel = (if rq then (if !rd then s.rLevel + 1 else s.rLevel) else if rd then s.rLevel - 1 else s.rLevel) :=
    ⟨_, _, rfl, rfl⟩
  have hq : rq = true → s.rLevel ≠ c.rDepth := fun e => by
    simp only [hrq, Bool.and_eq_true, Bool.not_eq_true'] at e
    obtain ⟨⟨⟨hreq, hv⟩, -⟩, hwe⟩ := e
    exact read_cmd_has_slot c s i (by revert hreq; cases c.rmw <;> cases s.rmwFsm <;> simp) hv hwe
  rw [hlev]
  exact level_le _ _ _ rq rd rd rfl h fun e => Nat.lt_of_le_of_ne h (hq e)

def run (c : Cfg) : State → List In → State
  | s, [] => s
  | s, i :: is => run c (step c s i).1 is

theorem run_inv (c : Cfg) (P : State → Prop) (hstep : ∀ s i, P s → P (step c s i).1) (ins : List In) :
    ∀ s, P s → P (run c s ins) := by
  induction ins with
  | nil => exact fun s h => h
  | cons i is ih => exact fun s h => ih _ (hstep s i h)

/-- a read command is issued only while the read buffer has a free slot reserved for it, so the reservation counter
never exceeds the buffer depth - for every traffic and timing -/
theorem rlevel_bounded (c : Cfg) (ins : List In) : (run c (State.init c) ins).rLevel ≤ c.rDepth :=
  run_inv c (·.rLevel ≤ c.rDepth) (rlevel_step c) ins _ (by simp [State.init])

theorem wlevel_step (c : Cfg) (s : State) (i : In) (hn : c.rmw = false) (hd : 1 ≤ c.wDepth)
    (hw : Fifo.WF (wCfg c) s.wBuf) (h : s.wLevel ≤ Fifo.count s.wBuf) :
    Fifo.WF (wCfg c) (step c s i).1.wBuf ∧ (step c s i).1.wLevel ≤ Fifo.count (step c s i).1.wBuf := by
  -- `wq` = `wQueue`, `sr` = `wSrcReady` of `step`
  obtain ⟨wq, sr, hwq, hbuf, hlev⟩ : ∃ (wq : Bool) (sr : Bool),
      wq = ((step c s i).2.cmdValid && i.cmdReady && (step c s i).2.cmdWe) ∧
      (step c s i).1.wBuf = Fifo.step (wCfg c) s.wBuf i.wValid i.w sr ∧
      (step c s i).1.wLevel = (if wq then (if !(Fifo.srcValid (wCfg c) s.wBuf i.wValid && sr) then s.wLevel + 1 else s.wLevel)
                               else if (Fifo.srcValid (wCfg c) s.wBuf i.wValid && sr) then s.wLevel - 1 else s.wLevel) := by
    simp only [step, hn]
    exact ⟨_, _, rfl, rfl, rfl⟩
  have hq : wq = true → s.wLevel < Fifo.count s.wBuf := fun e => write_taken_has_beat c s i hn (hwq ▸ e)
  rw [hbuf, hlev, Fifo.count_eq]
  rw [Fifo.count_eq] at h hq
  exact ⟨Fifo.wf_step (wCfg c) hd s.wBuf hw _ _ _,
    level_le _ _ _ wq _ _ (Fifo.step_length (wCfg c) hd s.wBuf hw i.wValid i.w sr) h hq⟩

theorem wlevel_bounded_of (c : Cfg) (hn : c.rmw = false) (hd : 1 ≤ c.wDepth) (ins : List In) :
    (run c (State.init c) ins).wLevel ≤ Fifo.count (run c (State.init c) ins).wBuf :=
  (run_inv c (fun s => Fifo.WF (wCfg c) s.wBuf ∧ s.wLevel ≤ Fifo.count s.wBuf)
    (fun s i h => wlevel_step c s i hn hd h.1 h.2) ins _ ⟨Fifo.wf_init _, by simp [State.init]⟩).2

/-- **Commands never run ahead of the data they need** (regular datapath): from reset, for every traffic and timing,
the number of write commands issued whose data beat has not left yet never exceeds the beats held in the write
buffer - so every `wdata.ready` strobe of the controller finds its beat. -/
theorem wlevel_bounded (c : Cfg) (hn : c.rmw = false) (hd : 2 ≤ c.wDepth) (ins : List In) :
    (run c (State.init c) ins).wLevel ≤ Fifo.count (run c (State.init c) ins).wBuf :=
  wlevel_bounded_of c hn (Nat.le_of_succ_le hd) ins

/-- the two paths never issue a command in the same cycle; a command on the port comes from the granted path or from
the RMW FSM, and its direction says which -/
theorem command_source (c : Cfg) (s : State) (i : In) (hn : c.rmw = false) (hv : (step c s i).2.cmdValid = true) :
    ((step c s i).2.cmdWe = true ∧ s.grant = 0) ∨ ((step c s i).2.cmdWe = false ∧ s.grant = 1) :=
  (regular_cmd_source c s i (by simp [hn]) hv).imp (fun h => ⟨h.1, h.2.1⟩) (fun h => ⟨h.1, h.2.1⟩)

/-- round-robin: with both paths requesting the grant alternates whenever the arbiter may move -/
theorem rr_alternates (g : Nat) (hg : g = 0 ∨ g = 1) : rrNext g true true = 1 - g := by
  rcases hg with h | h <;> simp [rrNext, h]

example : mergeBytes 4 0xAABBCCDD 0x11223344 0b0101 = 0xAA22CC44 := by decide
example : (B2B.step 12 {} ⟨0x100, 1, 3, 2, 5⟩ true).offset = 4 := by decide

end C09
