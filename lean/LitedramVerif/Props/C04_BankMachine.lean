/-
C04, bank-machine layer: **a bank machine grants a pending refresh request within an explicit number of cycles**.

`bank_machine_grants_refresh`: from every reachable state of the bank-machine model (any configuration, any input history),
if `refresh_req` is held and the multiplexer accepts every command that stays valid within `A` cycles, `refresh_gnt` is
raised within `phiMax c A` cycles (2·2^w(tWTP) + 2^w(tRAS) + 2^w(tRC) + tRAS + 2·A + 2·tRP + tRCD + 4, where 2^w(t) is the
range of the timer's counter: from reset a tXXD timer first wraps once).  At most one precharge and one activate are still
issued (the row in flight is opened, then everything waits for tRAS / write recovery).
Proof: `BmLive.phi` is a potential that strictly decreases on every clock edge until the grant (`BmLive.phi_step`).
What the composed statement (`C04.refresh_grant_bound_full`) still needs: the multiplexer's side (`A`).
-/
import LitedramVerif.Proofs.BmLive
import LitedramVerif.Proofs.Run
namespace C04
open Hw BankMachine BmLive

/-- the environment of a run with the refresh request pending: `refresh` is held, and a command that has been valid for
`A − 1` cycles is accepted in the next one (`w` = cycles the current command has waited so far) -/
def Fair (c : Cfg) (A : Nat) : State → Nat → List In → Prop
  | _, _, [] => True
  | s, w, i :: rest =>
    i.refresh = true ∧ ((BankMachine.step c s i).2.cmdValid = true → w + 1 = A → i.ready = true) ∧
    Fair c A (BankMachine.step c s i).1 (wNext c s i w) rest

/-- `refresh_gnt` in cycle `t` of the run -/
def gntAt (c : Cfg) : State → List In → Nat → Bool
  | _, [], _ => false
  | s, i :: _, 0 => (BankMachine.step c s i).2.refreshGnt
  | s, i :: rest, t + 1 => gntAt c (BankMachine.step c s i).1 rest t

theorem progress_from (c : Cfg) (A : Nat) (ins : List In) : ∀ (s : State) (w : Nat), TOk c s → w < A → Fair c A s w ins →
    phi c A s w < ins.length → ∃ t, t ≤ phi c A s w ∧ gntAt c s ins t = true := by
  induction ins with
  | nil => intro s w _ _ _ h; simp at h
  | cons i rest ih =>
    intro s w hk hw hfair hlen
    obtain ⟨hr, hf, hrest⟩ := hfair
    rcases phi_step c A s i w hk hr hw hf with hg | ⟨hdec, hw'⟩
    · exact ⟨0, Nat.zero_le _, hg⟩
    · have hlen' : phi c A (BankMachine.step c s i).1 (wNext c s i w) < rest.length := by
        simp only [List.length_cons] at hlen; omega
      obtain ⟨t, ht, hgt⟩ := ih _ _ (tok_step c s i hk) hw' hrest hlen'
      exact ⟨t + 1, by omega, hgt⟩

def runBm (c : Cfg) (s : State) (ins : List In) : State := ins.foldl (fun st i => (BankMachine.step c st i).1) s

theorem bank_machine_grants_refresh (c : Cfg) (A : Nat) (hA : 0 < A) (pre post : List In)
    (hfair : Fair c A (runBm c (State.init c) pre) 0 post) (hlen : phiMax c A < post.length) :
    ∃ t, t ≤ phiMax c A ∧ gntAt c (runBm c (State.init c) pre) post t = true := by
  have hk : TOk c (runBm c (State.init c) pre) :=
    Run.foldl_inv (fun st i => (BankMachine.step c st i).1) (TOk c) (fun _ => True) (fun s i h _ => tok_step c s i h) pre _
      ⟨txok_init _, txok_init _, txok_init _⟩ (fun _ _ => trivial)
  have hle := phi_le c A (runBm c (State.init c) pre) 0 hk
  obtain ⟨t, ht, hg⟩ := progress_from c A post _ 0 hk hA hfair (by omega)
  exact ⟨t, by omega, hg⟩

/-! ### non-vacuity: a bank machine caught in PRECHARGE (row miss pending) when the refresh request arrives, with a multiplexer
that accepts every third cycle, grants in cycle 10 ≤ `phiMax` = 45; the run meets `Fair` with `A` = 3 -/
def cfgB : Cfg := { depth := 4, tRAS := some 5, tRC := some 7, twtp := 4, tRCD := 2, tRP := 2, colbits := 10, rowbits := 13, align := 3, abits := 13, ap := false }
def preB : List In := (List.range 18).map fun k => ⟨k < 6, true, if k < 3 then 5 else 1000, false, k % 2 == 0⟩
def postB : List In := (List.range 46).map fun k => ⟨false, false, 0, true, k % 3 == 2⟩

def fairB (c : Cfg) (A : Nat) : State → Nat → List In → Bool
  | _, _, [] => true
  | s, w, i :: rest =>
    i.refresh && (!(BankMachine.step c s i).2.cmdValid || !(w + 1 == A) || i.ready) &&
    fairB c A (BankMachine.step c s i).1 (wNext c s i w) rest

theorem fairB_sound (c : Cfg) (A : Nat) (ins : List In) : ∀ s w, fairB c A s w ins = true → Fair c A s w ins := by
  induction ins with
  | nil => intro s w _; trivial
  | cons i rest ih =>
    intro s w h
    simp only [fairB, Bool.and_eq_true, Bool.or_eq_true, Bool.not_eq_true', beq_eq_false_iff_ne] at h
    refine ⟨h.1.1, ?_, ih _ _ h.2⟩
    intro hv hw
    rcases h.1.2 with (h1 | h1) | h1
    · rw [hv] at h1; cases h1
    · exact absurd hw h1
    · exact h1

example : (runBm cfgB (State.init cfgB) preB).fsm = .precharge ∧ phiMax cfgB 3 = 45 ∧
    fairB cfgB 3 (runBm cfgB (State.init cfgB) preB) 0 postB = true ∧
    gntAt cfgB (runBm cfgB (State.init cfgB) preB) postB 10 = true ∧
    gntAt cfgB (runBm cfgB (State.init cfgB) preB) postB 9 = false := by decide +kernel

end C04
