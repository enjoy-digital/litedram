/-
C01, whole-core level: every data strobe reaches the master that issued the command.

Ghost `own j` = the issuing masters of the requests queued in bank machine `j` (oldest first).  `owner_invariant`: in every
reachable state of `Model/Core.lean` all of them equal the bank's current arbiter grant (the grant cannot move while the bank
is locked, and the lock is exactly "queue not empty").  `strobe_to_issuer`: when a bank machine serves a request, it is the
head of its queue (`C01.bank_queue_fifo`), issued by the current grant, and in that cycle exactly that master's strobe delay
line receives the pulse (no other bank strobes: `C01.one_strobe_per_cycle`); `C01.delay_line_tap` brings it to the port
`write_latency+1` / `read_latency+1` cycles later.  Together: *per bank, every accepted command gets its data strobe, in
order, at the master that issued it*.  What is still missing for `core_memory_semantics_full`: the order across banks for one
master (a master is locked to one bank at a time) and the data path through the PHY model (C19).
Hypotheses: the crossbar has as many banks as the controller bank machines, command-buffer depth ≥ 2, ≥ 11 address lines.
-/
import LitedramVerif.Props.C01_Controller
import LitedramVerif.Props.C01
namespace C01
open Controller CtlInv

def insOf (c : Core.Cfg) (s : Core.State) (ms : Array Crossbar.MasterIn) : Array BankIn :=
  (Crossbar.comb c.xb s.xb ms (Core.bankFb c s)).bankReqs.map fun r => ({ valid := r.valid, we := r.we, addr := r.addr } : BankIn)

theorem core_ctl (c : Core.Cfg) (s : Core.State) (ms : Array Crossbar.MasterIn) :
    (Core.step c s ms).1.ctl = (Controller.step c.ctl s.ctl (insOf c s ms)).1 := rfl

theorem core_xb (c : Core.Cfg) (s : Core.State) (ms : Array Crossbar.MasterIn) :
    (Core.step c s ms).1.xb = Crossbar.step c.xb s.xb (Crossbar.comb c.xb s.xb ms (Core.bankFb c s)) (Core.bankFb c s)
      ((Controller.step c.ctl s.ctl (insOf c s ms)).2.map (·.wdataReady)) ((Controller.step c.ctl s.ctl (insOf c s ms)).2.map (·.rdataValid)) := rfl

/-- ghost: per bank, the master that issued each queued request (oldest first) -/
abbrev Own := Nat → List Nat

structure OInv (c : Core.Cfg) (s : Core.State) (own : Own) : Prop where
  /-- what `BmQueue.queue_step` needs to follow the queue -/
  fifo : ∀ j, j < c.ctl.nbm → BmQueue.FInv c.ctl.bm s.ctl.bms[j]!
  len : ∀ j, j < c.ctl.nbm → (own j).length = (BmQueue.queue c.ctl.bm s.ctl.bms[j]!).length
  /-- the arbiter does not move while the bank is locked (`grant_kept`) -/
  owner : ∀ j, j < c.ctl.nbm → ∀ m ∈ own j, m = s.xb.grants[j]!

def takenJ (c : Core.Cfg) (s : Core.State) (ms : Array Crossbar.MasterIn) (j : Nat) : Bool :=
  BmQueue.taken c.ctl.bm s.ctl.bms[j]! (bmIn c.ctl s.ctl (insOf c s ms) j)
def servedJ (c : Core.Cfg) (s : Core.State) (ms : Array Crossbar.MasterIn) (j : Nat) : Bool :=
  BmQueue.served c.ctl.bm s.ctl.bms[j]! (bmIn c.ctl s.ctl (insOf c s ms) j)

def ownNext (c : Core.Cfg) (s : Core.State) (ms : Array Crossbar.MasterIn) (own : Own) : Own := fun j =>
  (if servedJ c s ms j then (own j).tail else own j) ++ (if takenJ c s ms j then [s.xb.grants[j]!] else [])

structure WFc (c : Core.Cfg) : Prop where
  banks : c.xb.nbanks = c.ctl.nbm
  /-- the command buffers are real FIFOs (`stream.SyncFIFO`): the case `BmQueue.queue_step` covers -/
  depth : 2 ≤ c.ctl.bm.depth

theorem bankFb_lock (c : Core.Cfg) (hwf : WFc c) (s : Core.State) (j : Nat) (hj : j < c.ctl.nbm) :
    ((Core.bankFb c s)[j]!).lock = !(BmQueue.queue c.ctl.bm s.ctl.bms[j]!).isEmpty := by
  simp only [Core.bankFb]
  rw [Lists.getElem!_map _ _ _ (by rw [step_outs_size]; exact hj), step_outs _ _ _ _ hj]
  exact BmQueue.lock_eq _ (by have := hwf.depth; omega) _ _

theorem insOf_valid (c : Core.Cfg) (hwf : WFc c) (s : Core.State) (ms : Array Crossbar.MasterIn) (j : Nat) (hj : j < c.ctl.nbm) :
    ((insOf c s ms)[j]!).valid = ((Crossbar.comb c.xb s.xb ms (Core.bankFb c s)).bankReqs[j]!).valid := by
  have hsz : j < (Crossbar.comb c.xb s.xb ms (Core.bankFb c s)).bankReqs.size := by
    simp [Crossbar.comb, hwf.banks, hj]
  simp only [insOf]
  rw [Lists.getElem!_map _ _ _ hsz]

theorem locked_of_own (c : Core.Cfg) (hwf : WFc c) (s : Core.State) (own : Own) (h : OInv c s own) (j : Nat) (hj : j < c.ctl.nbm)
    (hne : own j ≠ []) : ((Core.bankFb c s)[j]!).lock = true := by
  rw [bankFb_lock c hwf s j hj]
  have : (BmQueue.queue c.ctl.bm s.ctl.bms[j]!).length ≠ 0 := by rw [← h.len j hj]; simpa using hne
  cases hq2 : BmQueue.queue c.ctl.bm s.ctl.bms[j]! with
  | nil => simp [hq2] at this
  | cons a l => rfl

theorem own_pos_of_served (c : Core.Cfg) (s : Core.State) (ms : Array Crossbar.MasterIn) (own : Own) (h : OInv c s own) (j : Nat)
    (hj : j < c.ctl.nbm) (hsv : servedJ c s ms j = true) : 0 < (own j).length :=
  h.len j hj ▸ BmQueue.served_queue _ _ _ hsv

theorem ownNext_ne_nil (c : Core.Cfg) (s : Core.State) (ms : Array Crossbar.MasterIn) (own : Own) (j : Nat)
    (hne : ownNext c s ms own j ≠ []) : takenJ c s ms j = true ∨ own j ≠ [] := by
  cases ht : takenJ c s ms j
  · exact Or.inr fun he => by simp [ownNext, he, ht] at hne
  · exact Or.inl rfl

theorem grant_kept (c : Core.Cfg) (hwf : WFc c) (s : Core.State) (ms : Array Crossbar.MasterIn) (own : Own) (h : OInv c s own)
    (j : Nat) (hj : j < c.ctl.nbm) (hne : ownNext c s ms own j ≠ []) :
    (Core.step c s ms).1.xb.grants[j]! = s.xb.grants[j]! := by
  rw [core_xb]
  apply C01.grant_stable_while_busy _ _ _ _ _ _ j (by rw [hwf.banks]; exact hj)
  rcases ownNext_ne_nil c s ms own j hne with htk | hown
  · left
    simp only [takenJ, BmQueue.taken, Bool.and_eq_true] at htk
    rw [← insOf_valid c hwf s ms j hj]
    exact htk.1
  · exact Or.inr (locked_of_own c hwf s own h j hj hown)

theorem oinv_step (c : Core.Cfg) (hwf : WFc c) (s : Core.State) (ms : Array Crossbar.MasterIn) (own : Own) (h : OInv c s own) :
    OInv c (Core.step c s ms).1 (ownNext c s ms own) := by
  have hstep := fun j (hj : j < c.ctl.nbm) =>
    BmQueue.queue_step c.ctl.bm hwf.depth _ (bmIn c.ctl s.ctl (insOf c s ms) j) (h.fifo j hj)
  refine ⟨?_, ?_, ?_⟩
  · intro j hj
    rw [core_ctl, step_bms _ _ _ _ hj]
    exact (hstep j hj).1
  · intro j hj
    rw [core_ctl, step_bms _ _ _ _ hj]
    have hcons := (hstep j hj).2
    have hq : (if servedJ c s ms j then 1 else 0) +
        (BmQueue.queue c.ctl.bm (BankMachine.step c.ctl.bm s.ctl.bms[j]! (bmIn c.ctl s.ctl (insOf c s ms) j)).1).length =
        (own j).length + (if takenJ c s ms j then 1 else 0) := by
      have := congrArg List.length hcons
      simp only [List.length_append, apply_ite List.length, List.length_singleton, List.length_nil, ← h.len j hj] at this
      exact this
    have ho := Queue.length_pop_push (own j) (servedJ c s ms j) (takenJ c s ms j) s.xb.grants[j]! fun e =>
      List.length_pos_iff.mp (own_pos_of_served c s ms own h j hj e)
    show ((if servedJ c s ms j then (own j).tail else own j) ++ _).length = _
    omega
  · intro j hj m hm
    rw [grant_kept c hwf s ms own h j hj (List.ne_nil_of_mem hm)]
    simp only [ownNext, List.mem_append] at hm
    rcases hm with hm | hm
    · split at hm
      · exact h.owner j hj m (List.mem_of_mem_tail hm)
      · exact h.owner j hj m hm
    · split at hm
      · simpa using hm
      · cases hm

/-- the bit pushed into master `nm`'s write-strobe delay line in this cycle -/
def pushW (c : Core.Cfg) (s : Core.State) (ms : Array Crossbar.MasterIn) (nm : Nat) : Bool :=
  (List.range c.xb.nbanks).any fun nb => s.xb.grants[nb]! == nm &&
    (((Controller.step c.ctl s.ctl (insOf c s ms)).2.map (·.wdataReady))[nb]!)
def pushR (c : Core.Cfg) (s : Core.State) (ms : Array Crossbar.MasterIn) (nm : Nat) : Bool :=
  (List.range c.xb.nbanks).any fun nb => s.xb.grants[nb]! == nm &&
    (((Controller.step c.ctl s.ctl (insOf c s ms)).2.map (·.rdataValid))[nb]!)

theorem core_wdl (c : Core.Cfg) (s : Core.State) (ms : Array Crossbar.MasterIn) (nm : Nat) (h : nm < c.xb.nmasters) :
    (Core.step c s ms).1.xb.wdl[nm]! = (pushW c s ms nm :: s.xb.wdl[nm]!).take c.xb.wlat ∧
    (Core.step c s ms).1.xb.rdl[nm]! = (pushR c s ms nm :: s.xb.rdl[nm]!).take c.xb.rlat := by
  rw [core_xb]
  simp only [Crossbar.step]
  rw [Lists.getElem!_map_range _ _ _ h, Lists.getElem!_map_range _ _ _ h]
  exact ⟨rfl, rfl⟩

theorem any_granted_strobe (nbanks : Nat) (grants : Array Nat) (outs : Array BankOut) (f : BankOut → Bool) (j nm : Nat) (hj : j < nbanks)
    (hsz : outs.size = nbanks) (hone : ∀ nb, nb < nbanks → nb ≠ j → f outs[nb]! = false) :
    ((List.range nbanks).any fun nb => grants[nb]! == nm && (outs.map f)[nb]!) = (f outs[j]! && grants[j]! == nm) := by
  rw [Bool.eq_iff_iff, List.any_eq_true]
  constructor
  · rintro ⟨nb, hnb, hp⟩
    have hnb' : nb < nbanks := List.mem_range.mp hnb
    rw [Lists.getElem!_map _ _ _ (hsz ▸ hnb')] at hp
    simp only [Bool.and_eq_true, beq_iff_eq] at hp
    by_cases hne : nb = j
    · subst hne; simp [hp.1, hp.2]
    · rw [hone nb hnb' hne] at hp; cases hp.2
  · intro hp
    simp only [Bool.and_eq_true, beq_iff_eq] at hp
    refine ⟨j, List.mem_range.mpr hj, ?_⟩
    rw [Lists.getElem!_map _ _ _ (hsz ▸ hj)]
    simp [hp.1, hp.2]

/-- **Every data strobe goes to the master that issued the command**: when bank machine `j` serves a request (raises
`wdata_ready` or `rdata_valid`), the request is the oldest one in its queue, it was issued by the master that currently
holds the bank's arbiter, and in this cycle exactly that master's delay line receives the strobe. -/
theorem strobe_to_issuer (c : Core.Cfg) (hwf : WFc c) (hab : 11 ≤ c.ctl.bm.abits) (s : Core.State) (ms : Array Crossbar.MasterIn)
    (own : Own) (h : OInv c s own) (j : Nat) (hj : j < c.ctl.nbm) :
    let o := (Controller.step c.ctl s.ctl (insOf c s ms)).2[j]!
    (o.wdataReady = true ∨ o.rdataValid = true) →
      (own j).head? = some s.xb.grants[j]! ∧
      (∀ nm, pushW c s ms nm = (o.wdataReady && s.xb.grants[j]! == nm)) ∧
      (∀ nm, pushR c s ms nm = (o.rdataValid && s.xb.grants[j]! == nm)) := by
  intro o hs
  have hsv : servedJ c s ms j = true := by
    simp only [servedJ, BmQueue.served, Bool.or_eq_true]
    have := step_outs c.ctl s.ctl (insOf c s ms) j hj
    simp only [o, this] at hs
    exact hs
  have hown : own j ≠ [] := List.length_pos_iff.mp (own_pos_of_served c s ms own h j hj hsv)
  have hone : ∀ nb, nb < c.xb.nbanks → nb ≠ j →
      ¬ (((Controller.step c.ctl s.ctl (insOf c s ms)).2[nb]!).wdataReady = true ∨
         ((Controller.step c.ctl s.ctl (insOf c s ms)).2[nb]!).rdataValid = true) := fun nb hnb hne hx =>
    hne (C01.one_strobe_per_cycle c.ctl hab s.ctl (insOf c s ms) nb j (hwf.banks ▸ hnb) hj hx hs)
  have hsz : (Controller.step c.ctl s.ctl (insOf c s ms)).2.size = c.xb.nbanks := by rw [step_outs_size, hwf.banks]
  refine ⟨?_, fun nm => ?_, fun nm => ?_⟩
  · cases ho : own j with
    | nil => exact absurd ho hown
    | cons a l =>
      have := h.owner j hj a (by rw [ho]; simp)
      simp [this]
  · exact any_granted_strobe _ _ _ (·.wdataReady) j nm (hwf.banks ▸ hj) hsz fun nb hnb hne =>
      Bool.eq_false_iff.mpr fun hx => hone nb hnb hne (Or.inl hx)
  · exact any_granted_strobe _ _ _ (·.rdataValid) j nm (hwf.banks ▸ hj) hsz fun nb hnb hne =>
      Bool.eq_false_iff.mpr fun hx => hone nb hnb hne (Or.inr hx)

theorem oinv_init (c : Core.Cfg) (hwf : WFc c) : OInv c (Core.init c) (fun _ => []) := by
  have hb : ∀ i, i < c.ctl.nbm → (Core.init c).ctl.bms[i]! = BankMachine.State.init c.ctl.bm := init_bms c.ctl
  refine ⟨fun j hj => ?_, fun j hj => ?_, fun j hj m hm => by cases hm⟩
  · rw [hb j hj]; exact BmQueue.finv_init _ (by have := hwf.depth; omega)
  · rw [hb j hj]; simp [BmQueue.queue, BmQueue.fifoList, BankMachine.State.init]

def runOwn (c : Core.Cfg) : Core.State → Own → List (Array Crossbar.MasterIn) → Core.State × Own
  | s, own, [] => (s, own)
  | s, own, ms :: rest => runOwn c (Core.step c s ms).1 (ownNext c s ms own) rest

def OneBank (c : Core.Cfg) (s : Core.State) (own : Own) : Prop :=
  ∀ j1 j2, j1 < c.ctl.nbm → j2 < c.ctl.nbm → own j1 ≠ [] → own j2 ≠ [] → s.xb.grants[j1]! = s.xb.grants[j2]! → j1 = j2

theorem taken_selected (c : Core.Cfg) (hwf : WFc c) (s : Core.State) (ms : Array Crossbar.MasterIn) (j : Nat) (hj : j < c.ctl.nbm)
    (h : takenJ c s ms j = true) :
    AddrMap.bankOf c.xb.geom (ms[s.xb.grants[j]!]!).cmdAddr = j ∧
    ∀ ob, ob < c.ctl.nbm → ob ≠ j → ¬ (((Core.bankFb c s)[ob]!).lock = true ∧ s.xb.grants[ob]! = s.xb.grants[j]!) := by
  simp only [takenJ, BmQueue.taken, Bool.and_eq_true] at h
  have hv : ((insOf c s ms)[j]!).valid = true := h.1
  rw [insOf_valid c hwf s ms j hj] at hv
  obtain ⟨hb, hl⟩ := bankReq_selected c.xb s.xb ms (Core.bankFb c s) j (hwf.banks ▸ hj) hv
  exact ⟨hb, fun ob hob => hl ob (hwf.banks ▸ hob)⟩

theorem onebank_step (c : Core.Cfg) (hwf : WFc c) (s : Core.State) (ms : Array Crossbar.MasterIn) (own : Own) (h : OInv c s own)
    (h1 : OneBank c s own) : OneBank c (Core.step c s ms).1 (ownNext c s ms own) := by
  intro j1 j2 hj1 hj2 hn1 hn2 hg
  rw [grant_kept c hwf s ms own h j1 hj1 hn1, grant_kept c hwf s ms own h j2 hj2 hn2] at hg
  have hlock := locked_of_own c hwf s own h
  refine Decidable.byContradiction fun hne => ?_
  rcases ownNext_ne_nil c s ms own j1 hn1 with ht1 | he1 <;> rcases ownNext_ne_nil c s ms own j2 hn2 with ht2 | he2
  · -- both banks accept a request from the same master: it addresses one bank
    have hb1 := (taken_selected c hwf s ms j1 hj1 ht1).1
    have hb2 := (taken_selected c hwf s ms j2 hj2 ht2).1
    rw [← hg] at hb2
    exact hne (hb1.symm.trans hb2)
  · exact (taken_selected c hwf s ms j1 hj1 ht1).2 j2 hj2 (fun e => hne e.symm) ⟨hlock j2 hj2 he2, hg.symm⟩
  · exact (taken_selected c hwf s ms j2 hj2 ht2).2 j1 hj1 hne ⟨hlock j1 hj1 he1, hg⟩
  · exact hne (h1 j1 j2 hj1 hj2 he1 he2 hg)

theorem onebank_init (c : Core.Cfg) : OneBank c (Core.init c) (fun _ => []) := by
  intro j1 j2 _ _ h; exact absurd rfl h

theorem run_inv (c : Core.Cfg) (hwf : WFc c) (inputs : List (Array Crossbar.MasterIn)) :
    ∀ (s : Core.State) (own : Own), OInv c s own → OneBank c s own →
      OInv c (runOwn c s own inputs).1 (runOwn c s own inputs).2 ∧ OneBank c (runOwn c s own inputs).1 (runOwn c s own inputs).2 := by
  induction inputs with
  | nil => intro s own h h1; exact ⟨h, h1⟩
  | cons ms rest ih => intro s own h h1; exact ih _ _ (oinv_step c hwf s ms own h) (onebank_step c hwf s ms own h h1)

/-- **In every reachable state of the whole core** (crossbar + controller + PHY model, any masters' behaviour): every
request queued in a bank machine was issued by the master that holds that bank's arbiter now. -/
theorem owner_invariant (c : Core.Cfg) (hwf : WFc c) (inputs : List (Array Crossbar.MasterIn)) :
    OInv c (runOwn c (Core.init c) (fun _ => []) inputs).1 (runOwn c (Core.init c) (fun _ => []) inputs).2 :=
  (run_inv c hwf inputs _ _ (oinv_init c hwf) (onebank_init c)).1

/-- **A master has requests queued in at most one bank at a time** (every reachable state of the whole core): so the data
strobes a port receives come back in the order of its commands - per bank they are FIFO (`bank_queue_fifo`), and a port
never has two banks working for it. -/
theorem one_bank_per_master (c : Core.Cfg) (hwf : WFc c) (inputs : List (Array Crossbar.MasterIn)) :
    OneBank c (runOwn c (Core.init c) (fun _ => []) inputs).1 (runOwn c (Core.init c) (fun _ => []) inputs).2 :=
  (run_inv c hwf inputs _ _ (oinv_init c hwf) (onebank_init c)).2

end C01
