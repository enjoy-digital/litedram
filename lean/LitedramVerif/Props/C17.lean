/-
C17 — generated initialisation programs the DRAM consistently with the controller.
Every statement quantifies over the *generated* encoding tables of init.py (finite), so the kernel
decides it against what the source says now.
-/
import LitedramVerif.Model.InitSeq
import LitedramVerif.Model.Timing
import LitedramVerif.Spec.JedecMR
import LitedramVerif.Props.C16
namespace C17
open InitSeq JedecMR Generated

def keys (t : List (Nat × Nat)) : List Nat := t.map (·.1)

/-- **DDR3 MR0**: for every CL and WR the formatter accepts (and both DLL-reset values), the register
decodes (JEDEC) to burst length 8, that CAS latency, that write recovery and that DLL-reset flag, and
uses only A0..A12 (no field overflows into another or out of the register). -/
theorem ddr3_mr0_roundtrip :
    ∀ cl ∈ keys ddr3_cl_to_mr0, ∀ wr ∈ keys ddr3_wr_to_mr0, ∀ dll ∈ [0, 1],
      ∃ m, ddr3Mr0 8 cl wr dll = some m ∧ ddr3BL m = some 8 ∧ ddr3CL m = some cl ∧ ddr3WR m = some wr ∧
        ddr3DllReset m = (dll == 1) ∧ m < 2 ^ 13 ∧ bitsAt m 3 1 = 0 ∧ bitsAt m 7 1 = 0 := by
  decide +kernel

/-- **DDR3 MR2 / MR1**: CWL 5..12 and every Rtt_WR / Ron / Rtt_nom / TDQS code land in their own fields. -/
theorem ddr3_mr2_mr1_roundtrip :
    (∀ cwl ∈ List.range' 5 8, ∀ rw ∈ List.range 3,
      ddr3CWL (ddr3Mr2 cwl rw) = cwl ∧ ddr3RttWr (ddr3Mr2 cwl rw) = rw ∧ ddr3Mr2 cwl rw < 2 ^ 11) ∧
    (∀ ron ∈ List.range 2, ∀ rn ∈ List.range 6, ∀ td ∈ List.range 2,
      ddr3Ron (ddr3Mr1 ron rn td) = ron ∧ ddr3RttNom (ddr3Mr1 ron rn td) = rn ∧ ddr3Tdqs (ddr3Mr1 ron rn td) = td ∧
      bitsAt (ddr3Mr1 ron rn td) 7 1 = 0 ∧ bitsAt (ddr3Mr1 ron rn td) 0 1 = 0 ∧
      ddr3Special (ddr3Mr1 ron rn td) = 0) := by
  decide +kernel

/-- **DDR4 MR0** likewise (CL code split over A12,A6:A4,A2; WR code over A13,A11:A9). -/
theorem ddr4_mr0_roundtrip :
    ∀ cl ∈ keys ddr4_cl_to_mr0, ∀ wr ∈ keys ddr4_wr_to_mr0, ∀ dll ∈ [0, 1],
      ∃ m, ddr4Mr0 8 cl wr dll = some m ∧ ddr4BL m = some 8 ∧ ddr4CL m = some cl ∧ ddr4WR m = some wr ∧
        ddr4DllReset m = (dll == 1) ∧ m < 2 ^ 14 ∧ bitsAt m 3 1 = 0 ∧ bitsAt m 7 1 = 0 := by
  decide +kernel

theorem ddr4_mr2_mr1_mr3_mr6_roundtrip :
    (∀ cwl ∈ keys ddr4_cwl_to_mr2, ∀ rw ∈ List.range 5,
      ∃ m, ddr4Mr2 cwl rw = some m ∧ ddr4CWL m = some cwl ∧ ddr4RttWr m = rw ∧ m < 2 ^ 12) ∧
    (∀ ron ∈ List.range 2, ∀ rn ∈ List.range 8, ∀ td ∈ List.range 2,
      ddr4DllEnable (ddr4Mr1 1 ron rn td) = 1 ∧ ddr4Ron (ddr4Mr1 1 ron rn td) = ron ∧
      ddr4RttNom (ddr4Mr1 1 ron rn td) = rn ∧ ddr4Tdqs (ddr4Mr1 1 ron rn td) = td ∧
      ddr4Special (ddr4Mr1 1 ron rn td) = 0) ∧
    (∀ f ∈ List.range 3, ddr4FineRefresh (ddr4Mr3 f) = f) ∧
    (∀ t ∈ keys ddr4_tccd_to_mr6, ∃ m, ddr4Mr6 t = some m ∧ ddr4TccdL m = t) := by
  decide +kernel

/-- **SDR / DDR / LPDDR / DDR2**: `log2(bl) + (cl << 4)` decodes to BL and CL for every burst
length 1,2,4,8 and CL ≤ 7; the reset-DLL variant only adds A8; DDR2's constant `wr` field reads as
write recovery 3 clocks and leaves BL/CL intact. -/
theorem basic_mr_roundtrip :
    (∀ bl ∈ [1, 2, 4, 8], ∀ cl ∈ List.range 8,
      basicBL (mrBasic bl cl) = some bl ∧ basicCL (mrBasic bl cl) = cl ∧ basicDllReset (mrBasic bl cl) = false ∧
      basicBL (mrBasic bl cl + resetDll) = some bl ∧ basicCL (mrBasic bl cl + resetDll) = cl ∧
      basicDllReset (mrBasic bl cl + resetDll) = true) ∧
    (∀ cl ∈ List.range 8, basicBL (ddr2Mr cl) = some 4 ∧ basicCL (ddr2Mr cl) = cl ∧ ddr2WR (ddr2Mr cl) = 3 ∧
      basicCL (ddr2Mr cl + resetDll) = cl) := by
  decide +kernel

/-- **LPDDR4 MR1/MR2**: for every (RL, WL, nWR) row of the frequency table, `get_nwr` finds the row, the two
registers build without field overlap/overflow, and decode to BL16, that nWR, RL and WL (set A). -/
theorem lpddr4_mr_roundtrip :
    ∀ row ∈ lpddr4_freq,
      lpddr4Nwr row.1 row.2.1 = some row.2.2 ∧
      (∃ m1, lpddr4Mr 1 (fun v => [16, row.2.2, row.1, row.2.1].getD v 0) (fun _ _ => 0) = some m1 ∧
        lpddr4BL m1 = some 16 ∧ lpddr4NWR m1 = some row.2.2 ∧ m1 < 256) ∧
      (∃ m2, lpddr4Mr 2 (fun v => [16, row.2.2, row.1, row.2.1].getD v 0) (fun _ _ => 0) = some m2 ∧
        lpddr4RL m2 = some row.1 ∧ lpddr4WL m2 = some row.2.1 ∧ m2 < 256) := by
  decide +kernel

/-- **No KeyError for the default latencies**: every (CL, CWL) pair `get_default_cl_cwl` can return for
DDR3/DDR4 is encodable, and SDR/DDR2 CLs fit the 3-bit field. -/
theorem default_latencies_encodable :
    ∀ e ∈ default_cl_cwl,
      (e.1 = "DDR3" → e.2.2.1 ∈ keys ddr3_cl_to_mr0 ∧ 5 ≤ e.2.2.2 ∧ e.2.2.2 ≤ 12) ∧
      (e.1 = "DDR4" → e.2.2.1 ∈ keys ddr4_cl_to_mr0 ∧ e.2.2.2 ∈ keys ddr4_cwl_to_mr2) ∧
      ((e.1 = "SDR" ∨ e.1 = "DDR2") → e.2.2.1 < 8) := by
  decide +kernel

/-! ### write recovery (known finding `c17-wr-from-twtr`) -/

/-- what the property asks of the programmed WR (in DRAM clocks): it covers the datasheet tWR
(`wr · tCK ≥ tWR`, i.e. `wr·den·1e9 ≥ num·f·n`) and does not exceed what the controller waits
(`wr ≤ tWR_cycles · n`). -/
abbrev WrOk (wr : Nat) (tWRns : Timing.Q) (tWRcycles : Nat) (c : Timing.Clk) : Prop :=
  tWRns.num * c.f * c.n ≤ wr * (tWRns.den * 10 ^ 9) ∧ wr ≤ tWRcycles * c.n

/-- **Partial**: the property holds whenever the value fed to the formatter is at least the datasheet
requirement and at most the controller's wait — which is what `max(tWR_cycles·n, 5)` would give … -/
theorem wr_ok_of_tWR_partial (tWRns : Timing.Q) (c : Timing.Clk) (hd : 0 < tWRns.den) (hn : 0 < c.n)
    (h5 : 5 ≤ Timing.nsToCyclesMargin tWRns c * c.n) :
    WrOk (max (Timing.nsToCyclesMargin tWRns c * c.n) 5) tWRns (Timing.nsToCyclesMargin tWRns c) c := by
  rw [Nat.max_eq_left h5]
  exact ⟨Nat.le_trans (Nat.le_add_right _ _) (C16.margin_covers_worst_phase tWRns c hd hn), Nat.le_refl _⟩

/-- … but the code derives WR from **tWTR**: counter-example on the model.  DDR3 (tWR = 15 ns,
tWTR = max(4 ck, 7.5 ns)) at 150 MHz, 1:4: the controller's tWTR is 2 cycles, so WR = max(2·4, 5) = 8
clocks = 13.3 ns < 15 ns. -/
theorem wr_from_twtr_counterexample :
    let c : Timing.Clk := ⟨150000000, 4⟩
    let tWTR := Timing.minCycles ⟨⟨4, 1⟩, ⟨75, 10⟩⟩ c
    let tWR := Timing.minCycles ⟨Timing.Q.zero, ⟨15, 1⟩⟩ c
    tWTR = 2 ∧ ddr3Wr tWTR 4 = 8 ∧ ¬ WrOk (ddr3Wr tWTR 4) ⟨15, 1⟩ tWR c := by
  decide +kernel

/-- and values of `tWTR·nphases` that are not keys of the table make the generator raise (`none`):
e.g. tWTR = 3 cycles at 1:2 gives 6 (fine) but tWTR = 3 at 1:4 gives 12 (fine), 9/11/13/15 never
appear in the DDR3 table. -/
theorem ddr3_wr_keyerror_example : ddr3Mr0 8 6 (ddr3Wr 9 1) 1 = none ∧ ddr4Mr0 8 11 (ddr4Wr 11 1) 1 = none := by
  decide +kernel

end C17
