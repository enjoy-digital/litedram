/-
C04 for the **composed controller** — the refresh rate, for unbounded time and every traffic.

Configuration hypotheses: `CtlInv.WF` (the one of C02: ≥ 1 bank machine, tRP, tRFC, tZQCS, postponing ≥ 1, A10 present,
tRP + tRFC + 1 ≤ tREFI), refresh enabled, and `Budget`:

    psiMax + 2 + postponing·(tRP + tRFC + 1) + (tRP + tZQCS + 1 if ZQCS) ≤ postponing·tREFI

i.e. one refresh episode — the proved worst-case wait for the bus (`C04.refresh_grant_bound`), the burst of postponed refreshes
and a ZQ calibration — fits between two requests of the postponer (true of every real device: tREFI is 7.8 µs, the left side
a few hundred ns; the check evaluates it for every co-simulated configuration).

For every input sequence of the ports (unbounded length, any traffic) on the composed controller model:
 * `refresh_request_never_lost`  whenever the postponer raises a request the refresher is idle, so the request is taken
                                 (the request is a one-cycle pulse: a busy refresher would lose it);
 * `refresh_accounting`          after t cycles exactly  postponing·⌊t / (postponing·tREFI)⌋ − (what the running episode still
                                 owes) AUTO REFRESH commands have been taken from the refresher;
 * `refresh_rate`                hence  postponing·⌊t/(postponing·tREFI)⌋ − postponing ≤ #REF(t) ≤ postponing·⌊t/(postponing·tREFI)⌋:
                                 never more than `postponing` refreshes are owed, the long-run rate is exactly one per tREFI;
 * `refresh_episode_ends`        from every reachable state the refresher is back in IDLE (multiplexer out of REFRESH, bank machines
                                 released) within psiMax + 2 + postponing·(tRP+tRFC+1) + ZQCS length cycles: traffic resumes;
 * `zqcs_served`                 a due ZQ calibration (timer expired) is issued within `zMax` cycles - at the end of the next refresh
                                 episode - so calibrations recur with a period of at most zq_period + zMax;
 * `refresh_deadline`            **the k-th AUTO REFRESH (k ≥ 1) has been issued by cycle (k + postponing)·tREFI + lat0 +
                                 postponing·(tRP+tRFC+1)**, with the fixed service latency lat0 = psiMax + 2 + (tRP+tZQCS+1 if ZQCS)
                                 (`refresh_deadline_qr`: refresh r+1 of the (q+1)-th request at most lat0 + (r+1)·(tRP+tRFC+1)
                                 cycles after that request) - the statement of the property, with psiMax in place of the measured D.
Each AUTO REFRESH is preceded by its precharge-all (`C04.ref_preceded_by_prea`, C02) and reaches the DFI pins one cycle
later on phase 0 (`C02.controller_dfi_legal`); tREFI in cycles never exceeds the datasheet interval (C16).
The check measures the same deadline on traces with the tighter constant D(cfg) in place of psiMax.
-/
import LitedramVerif.Proofs.RefreshRate
import LitedramVerif.Props.C04_Controller
namespace C04
open Controller Hw CtlInv CtlLive RefreshRate RefresherInv

theorem nl_reachable (c : Controller.Cfg) (hwf : CtlInv.WF c) (hb : Budget c) (inputs : List (Array BankIn))
    (hins : ∀ ins ∈ inputs, InsOk c ins) :
    ∃ g w, NL c (C04.runCtl c (init c) inputs) g w :=
  Run.foldl_inv (fun st i => (Controller.step c st i).1) (fun s => ∃ g w, NL c s g w) (InsOk c)
    (fun s i ⟨g, w, h⟩ hi => ⟨_, _, nl_step c hwf hb s g w i hi h⟩) inputs _ ⟨_, _, nl_init c hwf⟩ hins

/-- **no refresh request is ever lost** -/
theorem refresh_request_never_lost (c : Controller.Cfg) (hwf : CtlInv.WF c) (hb : Budget c) (inputs : List (Array BankIn))
    (hins : ∀ ins ∈ inputs, InsOk c ins) :
    (C04.runCtl c (init c) inputs).rf.reqO = true → (C04.runCtl c (init c) inputs).rf.fsm = .idle := by
  obtain ⟨g, w, h⟩ := nl_reachable c hwf hb inputs hins
  exact h.lost

/-- **exact accounting** of the AUTO REFRESH commands taken from the refresher in `t = inputs.length` cycles -/
theorem refresh_accounting (c : Controller.Cfg) (hwf : CtlInv.WF c) (hb : Budget c) (hwr : c.rf.withRefresh = true)
    (inputs : List (Array BankIn)) (hins : ∀ ins ∈ inputs, InsOk c ins) :
    refCount c (init c) inputs + owed c.rf (C04.runCtl c (init c) inputs).rf +
        (if (C04.runCtl c (init c) inputs).rf.reqO then c.rf.postponing else 0) =
      c.rf.postponing * (inputs.length / (c.rf.postponing * c.rf.tREFI)) ∧
    owed c.rf (C04.runCtl c (init c) inputs).rf + (if (C04.runCtl c (init c) inputs).rf.reqO then c.rf.postponing else 0) ≤
      c.rf.postponing := by
  obtain ⟨g, w, _, h⟩ := acct_reachable c hwf hb hwr inputs hins
  exact ⟨h.cnt, h.le⟩

/-- **the refresh rate**: never more than `postponing` refreshes owed, never one too many -/
theorem refresh_rate (c : Controller.Cfg) (hwf : CtlInv.WF c) (hb : Budget c) (hwr : c.rf.withRefresh = true)
    (inputs : List (Array BankIn)) (hins : ∀ ins ∈ inputs, InsOk c ins) :
    c.rf.postponing * (inputs.length / (c.rf.postponing * c.rf.tREFI)) ≤ refCount c (init c) inputs + c.rf.postponing ∧
    refCount c (init c) inputs ≤ c.rf.postponing * (inputs.length / (c.rf.postponing * c.rf.tREFI)) := by
  obtain ⟨h1, h2⟩ := refresh_accounting c hwf hb hwr inputs hins
  constructor <;> omega

/-- **every refresh episode ends** ("traffic resumes afterwards"): from every reachable state the refresher is back in IDLE -
and with it the multiplexer out of REFRESH and the bank machines released (C02's `CInv.idle`) - within
`psiMax + 2 + postponing·(tRP+tRFC+1) + ZQCS length` cycles, whatever the ports do -/
theorem refresh_episode_ends (c : Controller.Cfg) (hwf : CtlInv.WF c) (hb : Budget c) (pre post : List (Array BankIn))
    (hpre : ∀ ins ∈ pre, InsOk c ins) (hpost : ∀ ins ∈ post, InsOk c ins)
    (hlen : psiMax c + 2 + c.rf.postponing * M c.rf + zqLen c.rf ≤ post.length) :
    ∃ k, k ≤ psiMax c + 2 + c.rf.postponing * M c.rf + zqLen c.rf ∧
      (C04.runCtl c (C04.runCtl c (init c) pre) (post.take k)).rf.fsm = .idle := by
  obtain ⟨g, w, hnl⟩ := nl_reachable c hwf hb pre hpre
  have hbound := epi_le c hb _ g w hnl
  obtain ⟨k, hk, hkf⟩ := reach_idle c hwf hb post _ g w hnl hpost (by omega)
  exact ⟨k, by omega, hkf⟩

/-- **a due ZQ calibration is served**: from every reachable state in which the calibration timer has expired and no
calibration was started since (`zqDue`), the multiplexer takes a ZQ CALIBRATION (short) command from the refresher within
`zMax c` = 2·postponing·tREFI + psiMax + postponing·(tRP+tRFC+1) + 2·tRP + tZQCS + 8 cycles, whatever the ports do: the
calibration rides at the end of the next refresh episode.  The timer expires `zq_period` cycles after the previous calibration
completed (it is reloaded by `zqDone`), so calibrations recur with a period of at most `zq_period + zMax`. -/
theorem zqcs_served (c : Controller.Cfg) (hwf : CtlInv.WF c) (hb : Budget c) (hwr : c.rf.withRefresh = true) (z : Nat)
    (hz : c.rf.tZQCS = some z) (pre post : List (Array BankIn)) (hpre : ∀ ins ∈ pre, InsOk c ins)
    (hpost : ∀ ins ∈ post, InsOk c ins) (hdue : zqDue (C04.runCtl c (init c) pre).rf = true) (hlen : zMax c ≤ post.length) :
    ∃ k, k ≤ zMax c ∧ zqAcc c (C04.runCtl c (C04.runCtl c (init c) pre) (post.take k)) = true := by
  obtain ⟨g, w, hnl⟩ := nl_reachable c hwf hb pre hpre
  have hle := zpot_le c z hz _ g w hnl
  obtain ⟨k, hk, hkf⟩ := reach_zq c hwf hb hwr z hz post _ g w hnl (Or.inl hdue) hpost (by omega)
  exact ⟨k, by omega, hkf⟩

/-- fixed service latency of the deadline theorem: the worst-case wait for the bus and a ZQ calibration -/
def lat0 (c : Controller.Cfg) : Nat := psiMax c + 2 + zqLen c.rf

/-- **refresh deadline**, episode form: refresh number r+1 of the (q+1)-th request is issued at most
`lat0 + (r+1)·(tRP+tRFC+1)` cycles after that request (which is raised at cycle (q+1)·P·tREFI) -/
theorem refresh_deadline_qr (c : Controller.Cfg) (hwf : CtlInv.WF c) (hb : Budget c) (hwr : c.rf.withRefresh = true)
    (inputs : List (Array BankIn)) (hins : ∀ ins ∈ inputs, InsOk c ins) (q r : Nat) (hr : r < c.rf.postponing)
    (ht : (q + 1) * (c.rf.postponing * c.rf.tREFI) + lat0 c + (r + 1) * M c.rf ≤ inputs.length) :
    q * c.rf.postponing + r + 1 ≤ refCount c (init c) inputs := by
  obtain ⟨g, w, hnl, hcnt, htime, hle⟩ := acct_reachable c hwf hb hwr inputs hins
  generalize CtlLive.runCtl c (init c) inputs = s at *
  generalize inputs.length / (c.rf.postponing * c.rf.tREFI) = q' at *
  have hTr1 : 1 ≤ Tr c.rf s.rf := by simp only [Tr]; omega
  -- the (q+1)-th request has been raised
  have hq1 : q + 1 ≤ q' := by
    apply Nat.le_of_not_lt
    intro hlt
    have := Nat.mul_le_mul_right (c.rf.postponing * c.rf.tREFI) (show q' + 1 ≤ q + 1 by omega)
    omega
  by_cases hq2 : q + 2 ≤ q'
  · -- so has a later one: the refreshes of the (q+1)-th are counted in full
    have := Nat.mul_le_mul_left c.rf.postponing hq2
    rw [Nat.mul_add] at this
    have := Nat.mul_comm q c.rf.postponing
    omega
  · obtain rfl : q' = q + 1 := by omega
    have := owed_after c hwf hb s g w hnl (r + 1) hr (by
      have := hb.add_slack
      rw [Nat.add_mul (q + 1) 1] at htime
      simp only [lat0] at ht; omega)
    rw [Nat.mul_add, Nat.mul_comm _ q] at hcnt
    omega

/-- **refresh deadline** in the form of the property: the k-th AUTO REFRESH (k ≥ 1) has been issued by cycle
`(k + postponing)·tREFI + lat0 + postponing·(tRP+tRFC+1)` -/
theorem refresh_deadline (c : Controller.Cfg) (hwf : CtlInv.WF c) (hb : Budget c) (hwr : c.rf.withRefresh = true)
    (inputs : List (Array BankIn)) (hins : ∀ ins ∈ inputs, InsOk c ins) (k : Nat) (hk : 1 ≤ k)
    (ht : (k + c.rf.postponing) * c.rf.tREFI + lat0 c + c.rf.postponing * M c.rf ≤ inputs.length) :
    k ≤ refCount c (init c) inputs := by
  have hP := hwf.rf.post
  -- k − 1 = q·P + r
  have hdm := Nat.div_add_mod (k - 1) c.rf.postponing
  have hr : (k - 1) % c.rf.postponing < c.rf.postponing := Nat.mod_lt _ hP
  generalize (k - 1) / c.rf.postponing = q at *
  generalize (k - 1) % c.rf.postponing = r at *
  have hkq : k = q * c.rf.postponing + r + 1 := by rw [Nat.mul_comm]; omega
  have := refresh_deadline_qr c hwf hb hwr inputs hins q r hr (by
    have := deadline_le c.rf.tREFI c.rf.postponing (lat0 c) (M c.rf) q r hr
    rw [Nat.mul_assoc, ← hkq] at this
    omega)
  omega

/-- non-vacuity: `C02.cfgC` with tREFI = 130 meets the hypotheses -/
def cfgR : Controller.Cfg := { C02.cfgC with rf := { C02.cfgC.rf with tREFI := 130 } }

example : CtlInv.WF cfgR := (C02.wf2Check_sound cfgR (by decide)).base
example : Budget cfgR := budgetCheck_sound _ (by decide)
example : psiMax cfgR + 2 + cfgR.rf.postponing * M cfgR.rf + zqLen cfgR.rf = 221 ∧ cfgR.rf.postponing * cfgR.rf.tREFI = 260 := by decide
/-- the request of cycle 260 is being served at cycle 278 (one AUTO REFRESH issued, one owed) -/
example : refCount cfgR (init cfgR) ((List.range 278).map C02.insC) = 1 ∧
    owed cfgR.rf (C04.runCtl cfgR (init cfgR) ((List.range 278).map C02.insC)).rf = 1 := by
  rw [refCount_eq_runCount, runCtl_eq, runCtl_eq_runCount]
  decide +kernel

end C04
