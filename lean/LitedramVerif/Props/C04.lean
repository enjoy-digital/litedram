/-
C04 — refresh is never starved and keeps the datasheet refresh rate.

Proved here, for every configuration and unbounded time, about `Model/Refresher.lean`:
 * `refresh_timer_period`   the request pulses are exactly tREFI controller cycles apart, for ever
 * `postponer_ratio`        one request leaves the postponer per `postponing` pulses
 * `ref_preceded_by_prea`   every REF the executer puts out was preceded, exactly tRP cycles earlier, by
                            its precharge-all (invariant with a ghost "cycles since PREA")
 * `deadline_arith`         the accounting step from "grant latency ≤ D" to the k-th refresh deadline
The bound D on the grant latency itself (bank machines and multiplexer give way within D(cfg) cycles) is
bounded liveness of the composed controller: stated as `refresh_grant_bound_full`, not proved;
the check measures it on every implementation trace against the explicit `D` of the harness.
The datasheet rate additionally needs `tREFI_cycles · T ≤ tREFI` (C16, `refresh_interval_not_longer`).
-/
import LitedramVerif.Model.Refresher
import LitedramVerif.Model.Controller
import LitedramVerif.Proofs.RfStep
namespace C04
open Hw Refresher

def iter {α : Type} (f : α → α) : Nat → α → α
  | 0, x => x
  | n + 1, x => iter f n (f x)

theorem iter_add {α : Type} (f : α → α) (a b : Nat) (x : α) : iter f (a + b) x = iter f b (iter f a x) := by
  induction a generalizing x with
  | zero => simp [iter]
  | succ a ih => rw [Nat.succ_add]; exact ih (f x)

def timerNext (T cnt : Nat) : Nat := if cnt ≠ 0 then cnt - 1 else T - 1

theorem step_timer (c : Cfg) (s : State) (ready : Bool) :
    (step c s ready).timerCount = timerNext c.tREFI s.timerCount :=
  RefresherInv.step_timerCount c s ready

theorem timer_countdown (T k j : Nat) (hj : j ≤ k) : iter (timerNext T) j k = k - j := by
  induction j generalizing k with
  | zero => rfl
  | succ j ih =>
    have hk : k ≠ 0 := by omega
    simp only [iter, timerNext, hk, ne_eq, not_false_eq_true, if_true]
    rw [ih (k - 1) (by omega)]; omega

/-- after exactly T steps the timer is back at its reset value, having been at 0 (done) exactly once -/
theorem timer_full_period (T : Nat) (hT : 0 < T) : iter (timerNext T) T (T - 1) = T - 1 := by
  obtain ⟨n, rfl⟩ : ∃ n, T = n + 1 := ⟨T - 1, by omega⟩
  rw [iter_add, Nat.add_sub_cancel, timer_countdown (n + 1) n n (Nat.le_refl _)]
  simp [iter, timerNext]

/-- **Refresh timer period**: from reset, for every number of elapsed periods `m` and offset `j < T`, the
counter reads `T − 1 − j`; so `done` (counter = 0) is raised exactly in the cycles ≡ T − 1 (mod T): one
request pulse every tREFI controller cycles, for ever, independently of everything else. -/
theorem refresh_timer_period (T : Nat) (hT : 0 < T) (m j : Nat) (hj : j < T) :
    iter (timerNext T) (m * T + j) (T - 1) = T - 1 - j := by
  induction m with
  | zero => simp only [Nat.zero_mul, Nat.zero_add]; exact timer_countdown T (T - 1) j (by omega)
  | succ m ih =>
    have : (m + 1) * T + j = T + (m * T + j) := by rw [Nat.succ_mul]; omega
    rw [this, iter_add, timer_full_period T hT, ih]

/-- the postponer's (count, req_o) under a pulse / no pulse, as in `Refresher.step` -/
def postNext (P : Nat) (pulse : Bool) (cnt : Nat) : Nat × Bool :=
  if pulse then (if cnt == 0 then (P - 1, true) else ((cnt + 2 ^ bitsFor P - 1) % 2 ^ bitsFor P, false))
  else (cnt, false)

theorem step_postponer (c : Cfg) (s : State) (ready : Bool) :
    ((step c s ready).postCount, (step c s ready).reqO) = postNext c.postponing (s.timerCount == 0) s.postCount := by
  unfold step postNext
  cases c.tZQCS <;> simp <;> simp_all

/-- **Postponer ratio**: with the counter at `k < P`, the next `k` pulses are swallowed (counter counts
down, no request) and the `(k+1)`-th raises the request and reloads `P − 1`: exactly one request per
`P = postponing` timer pulses. -/
theorem postponer_ratio (P k : Nat) (hk : k < P) :
    (k ≠ 0 → postNext P true k = (k - 1, false)) ∧ (k = 0 → postNext P true k = (P - 1, true)) ∧
    postNext P false k = (k, false) := by
  refine ⟨?_, ?_, by simp [postNext]⟩
  · intro h0
    simp only [postNext, if_true, beq_false_of_ne h0, Bool.false_eq_true, if_false, Prod.mk.injEq, and_true]
    exact dec_bitsFor P k h0 hk
  · intro h0; subst h0; simp [postNext]

/-- the executer's command registers as a code: 0 = none, 1 = precharge-all, 2 = auto-refresh -/
def exRegs (tRP tRFC cnt : Nat) (start : Bool) : Nat :=
  if cnt == tRP + tRFC then 0 else if cnt == tRP then 2 else if start && cnt == 0 then 1 else 0

def exCnt (tRP tRFC cnt : Nat) (start : Bool) : Nat := timelineStep (tRP + tRFC) cnt start

def regsCode (s : State) : Nat :=
  if s.ras && !s.cas && s.we && s.a == 1024 then 1 else if s.ras && s.cas && !s.we then 2 else 0

theorem step_executer (c : Cfg) (s : State) (ready : Bool) (hz : c.tZQCS = none) (hrp : 1 ≤ c.tRP) (ha : 11 ≤ c.abits) :
    regsCode (step c s ready) = exRegs c.tRP c.tRFC s.exCounter ((s.fsm == .waitBm && ready) || s.seqCount != 0) ∧
    (step c s ready).exCounter = exCnt c.tRP c.tRFC s.exCounter ((s.fsm == .waitBm && ready) || s.seqCount != 0) := by
  refine ⟨?_, RefresherInv.step_exCounter c s ready⟩
  have h := RefresherInv.step_regs c s ready hrp ha
  rw [show RefresherInv.zqEvent c s = none by simp [RefresherInv.zqEvent, hz], Option.getD_none] at h
  -- `exRegs` is `RefresherInv.exEvent` in numbers, and `regsCode` reads that number off the registers
  unfold RefresherInv.exEvent RefresherInv.exStart at h
  unfold exRegs
  repeat' split
  all_goals simp_all [regsCode, RefresherInv.regsAre]

/-- invariant: the register code is determined by the counter; the ghost `g` counts the cycles since the
precharge-all appeared -/
def ExInv (tRP tRFC cnt code g : Nat) : Prop :=
  cnt ≤ tRP + tRFC ∧ (code = 1 ↔ cnt = 1) ∧ (code = 2 ↔ cnt = tRP + 1) ∧ (cnt ≠ 0 → g + 1 = cnt)

theorem ex_step (tRP tRFC cnt code g : Nat) (start : Bool) (hrp : 1 ≤ tRP) (hrfc : 1 ≤ tRFC)
    (h : ExInv tRP tRFC cnt code g) :
    ExInv tRP tRFC (exCnt tRP tRFC cnt start) (exRegs tRP tRFC cnt start)
      (if exRegs tRP tRFC cnt start = 1 then 0 else g + 1) := by
  obtain ⟨hle, _, _, hg⟩ := h
  -- the three events sit at the distinct counter values 0, `tRP`, `tRP + tRFC`
  unfold ExInv exCnt exRegs
  rw [tl_next _ _ _ (by omega) hle]
  have e1 : ¬ 0 = tRP + tRFC := by omega
  have e2 : ¬ 0 = tRP := by omega
  have e3 : ¬ tRFC = 0 := by omega
  by_cases hl : cnt = tRP + tRFC
  · simp [hl]
  · by_cases h0 : cnt = 0
    · subst h0; cases start <;> simp [e1, e2] <;> omega
    · have hg' := hg h0
      by_cases h1 : cnt = tRP
      · subst h1; simp [h0, e3]; omega
      · simp [hl, h0, h1]; omega

/-- **Every auto-refresh is preceded by the precharge of all banks**: whenever the executer's
registers show REF, the precharge-all was shown exactly tRP controller cycles earlier (`g = tRP`),
and nothing but idle in between — in every reachable state, for every tRP, tRFC ≥ 1. -/
theorem ref_preceded_by_prea (tRP tRFC cnt code g : Nat) (hrp : 1 ≤ tRP) (h : ExInv tRP tRFC cnt code g)
    (href : code = 2) : g = tRP := by
  obtain ⟨_, _, href', hg⟩ := h
  have := href'.mp href
  omega

theorem ex_inv_init (tRP tRFC g : Nat) : ExInv tRP tRFC 0 0 g := by
  refine ⟨Nat.zero_le _, ?_, ?_, ?_⟩ <;> simp

/-- the deadline of the `(r+1)`-th refresh after request `q+1` (left) is within the bound stated for the `k`-th refresh of the
run, `k = q·P + r + 1` (right) -/
theorem deadline_le (T P D L q r : Nat) (hr : r < P) :
    (q + 1) * P * T + D + (r + 1) * L ≤ (q * P + r + 1 + P) * T + D + P * L := by
  have h1 : (q + 1) * P * T ≤ (q * P + r + 1 + P) * T := by
    apply Nat.mul_le_mul_right
    rw [Nat.add_mul, Nat.one_mul]; omega
  have h2 : (r + 1) * L ≤ P * L := Nat.mul_le_mul_right L (by omega)
  omega

/-- accounting: if the refresher obtains the bus within `D` cycles of each request, and a request is
raised every `P·T` cycles from `P·T − 1` on (timer period × postponer ratio), the k-th REF of the run
(k ≥ 1, `P` per granted request, `L` cycles per PREA/REF pair) is issued no later than
`(k + P)·T + D + P·L`. -/
theorem deadline_arith (T P D L k q r : Nat) (hP : 0 < P) (hk : k = q * P + r + 1) (hr : r < P)
    (t : Nat) (ht : t ≤ ((q + 1) * P * T - 1) + D + (r + 1) * L) :
    t ≤ (k + P) * T + D + P * L := by
  subst hk
  have := deadline_le T P D L q r hr
  omega

/-- explicit bound on the grant latency, the same formula the check uses (`corelib.grant_bound`) -/
def grantBound (c : Controller.Cfg) : Nat :=
  c.bm.tRAS.getD 0 + c.bm.twtp + c.bm.tRP + c.bm.tRC.getD 0 + c.tFAW.getD 0 + c.tRRD.getD 0 * c.nbm + c.bm.tRCD + c.twtr +
    c.readLatency + 2 * c.tCCD + 2 * c.nbm + 16

def runCtl (c : Controller.Cfg) (s : Controller.State) (inputs : List (Array Controller.BankIn)) : Controller.State :=
  inputs.foldl (fun st i => (Controller.step c st i).1) s

/-- the bounded-liveness statement with the *tight* constant `grantBound` — **not proved for this constant**; proved with
the explicit (larger) bound `CtlLive.psiMax` as `C04.refresh_grant_bound` in Props/C04_Controller.lean (potential-function
proof over bank machines, choosers, timing gates and FSM).  The check measures the latency on every implementation trace
against `grantBound` and against `psiMax`: once the refresher waits for the bank machines, the multiplexer reaches REFRESH within
`grantBound c` cycles whatever the ports do. -/
def refresh_grant_bound_full : Prop :=
  ∀ (c : Controller.Cfg) (pre : List (Array Controller.BankIn)),
    (runCtl c (Controller.init c) pre).rf.fsm = .waitBm →
    ∀ (post : List (Array Controller.BankIn)), post.length = grantBound c →
      ∃ k, k ≤ grantBound c ∧ (runCtl c (runCtl c (Controller.init c) pre) (post.take k)).fsm = .refresh

example : iter (timerNext 100) 99 99 = 0 ∧ iter (timerNext 100) 100 99 = 99 := by decide +kernel
example : ExInv 3 10 4 2 3 := by refine ⟨by decide, by decide, by decide, by decide⟩

end C04
