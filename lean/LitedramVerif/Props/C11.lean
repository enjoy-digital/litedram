/-
C11: Avalon-MM port - bursts and single accesses keep memory semantics.
Theorems about the front-end FSM of Model/Avalon.lean, for every master behaviour and every port timing.
-/
import LitedramVerif.Model.Avalon
import LitedramVerif.Proofs.Lists
namespace C11
open Avalon

/-- a single access presents one command: the Avalon address relative to the base, the Avalon direction, `last` set;
it is accepted by the master (waitrequest low) exactly in the cycle the port takes the command -/
theorem single_access (c : Cfg) (s : State) (i : AvIn) (p : PortResp) (hs : s.fsm = .start)
    (hrw : (i.read || i.write) = true) (hb : ¬ i.burstcount > 1) :
    (portReq c s i).cmdValid = true ∧ (portReq c s i).cmdAddr = relAddr c i.address ∧
    (portReq c s i).cmdWe = i.write ∧ (portReq c s i).cmdLast = true ∧
    ((step c s i p).2.waitrequest = !p.cmdReady) ∧
    (p.cmdReady = true → (step c s i p).1.fsm = (if i.write then Fsm.singleWrite else Fsm.singleRead) ∧
      (step c s i p).1.writedata = i.writedata ∧ (step c s i p).1.byteenable = i.byteenable) := by
  simp only [portReq, step, hs, hrw, hb]
  cases p.cmdReady <;> simp

/-- the single write's data word is the latched one, held until the port takes it -/
theorem single_write_data (c : Cfg) (s : State) (i : AvIn) (p : PortResp) (hs : s.fsm = .singleWrite) :
    (portReq c s i).wValid = true ∧ (portReq c s i).wData = s.writedata ∧ (portReq c s i).wWe = s.byteenable ∧
    (step c s i p).1.writedata = s.writedata ∧ (step c s i p).1.byteenable = s.byteenable ∧
    (step c s i p).1.fsm = (if p.wReady then Fsm.start else Fsm.singleWrite) := by
  simp [portReq, step, hs]

/-- a single read hands the port's word to the master as one `readdatavalid` beat -/
theorem single_read_data (c : Cfg) (s : State) (i : AvIn) (p : PortResp) (hs : s.fsm = .singleRead) :
    (step c s i p).2.readdatavalid = p.rValid ∧ (p.rValid = true → (step c s i p).2.readdata = p.rData ∧ (step c s i p).1.fsm = .start) := by
  simp only [step, hs]
  cases p.rValid <;> simp

def beat (c : Cfg) (s : State) (i : AvIn) (p : PortResp) : Bool := i.write && !(step c s i p).2.waitrequest

/-- `k` beats of a burst of `n` starting at (relative) address `a0` have been accepted -/
def BWInv (c : Cfg) (a0 n : Nat) (s : State) (k : Nat) : Prop :=
  match s.fsm with
  | .burstWrite => k ≤ n ∧ s.burstCount = n - k ∧ s.address = (a0 + k * c.inc) % 2 ^ c.aw
  | _ => k = n

theorem relAddr_mod (c : Cfg) (a : Nat) : relAddr c a % 2 ^ c.aw = relAddr c a := by simp [relAddr]

theorem addr_succ (a0 k inc M : Nat) : ((a0 + k * inc) % M + inc) % M = (a0 + (k + 1) * inc) % M := by
  rw [Nat.mod_add_mod, Nat.add_mul, Nat.one_mul, Nat.add_assoc]

theorem beat_burst_write (c : Cfg) (s : State) (i : AvIn) (p : PortResp) (hs : s.fsm = .burstWrite) :
    beat c s i p = (i.write && decide (0 < s.burstCount) && Fifo.sinkReady (fcfg c) s.cmdFifo p.cmdReady &&
      Fifo.sinkReady (fcfg c) s.wFifo p.wReady) := by
  simp only [beat, step, hs]
  by_cases h0 : s.burstCount = 0
  · simp [h0]
  · simp [h0, Nat.pos_of_ne_zero h0, Bool.and_assoc]

theorem bw_exit (c : Cfg) (s : State) (i : AvIn) (p : PortResp) (hs : s.fsm = .burstWrite) :
    (step c s i p).1.fsm = .burstWrite ∨ ((step c s i p).1.fsm = .start ∧ s.burstCount = 0) := by
  simp only [step, hs]
  split <;> simp_all

/-- `pushed` and `sinkValid` of the model both equal `beat` -/
theorem bw_regs (c : Cfg) (s : State) (i : AvIn) (p : PortResp) (hs : s.fsm = .burstWrite) :
    (step c s i p).1.burstCount = (if beat c s i p then (s.burstCount + 511) % 512 else s.burstCount) ∧
    (step c s i p).1.address = (if beat c s i p then (s.address + c.inc) % 2 ^ c.aw else s.address) ∧
    (step c s i p).1.cmdFifo = Fifo.step (fcfg c) s.cmdFifo (beat c s i p) s.address p.cmdReady ∧
    (step c s i p).1.wFifo = Fifo.step (fcfg c) s.wFifo (beat c s i p) (i.writedata, i.byteenable) p.wReady := by
  simp only [beat, step, hs]
  by_cases h0 : s.burstCount = 0
  · simp [h0]
  · cases i.write <;> simp [h0, Nat.pos_of_ne_zero h0]

theorem bw_step (c : Cfg) (a0 n k : Nat) (s : State) (i : AvIn) (p : PortResp) (hn : n < 512)
    (hs : s.fsm = .burstWrite) (h : BWInv c a0 n s k) :
    BWInv c a0 n (step c s i p).1 (if beat c s i p then k + 1 else k) := by
  simp only [BWInv, hs] at h
  obtain ⟨hk, hbc, ha⟩ := h
  obtain ⟨hbc', ha', -⟩ := bw_regs c s i p hs
  have hb := beat_burst_write c s i p hs
  have hpos : beat c s i p = true → k < n := fun h => by
    rw [hb] at h; simp only [Bool.and_eq_true, decide_eq_true_eq] at h; omega
  rcases bw_exit c s i p hs with hf | ⟨hf, hz⟩
  · cases hbt : beat c s i p <;> simp only [BWInv, hf, hbc', ha', hbt, if_true]
    · exact ⟨hk, hbc, ha⟩
    · have := hpos hbt
      exact ⟨by omega, by omega, by rw [ha, addr_succ]⟩
  · have hbt : beat c s i p = false := by rw [hb, hz]; simp
    simp only [BWInv, hf, hbt, if_false, Bool.false_eq_true]; omega

/-- **An idle master cycle inside a write burst is neutral** (the behaviour repaired by fix 9d7991d): with beats
still owed and `write` low the FSM stays in the burst, owes the same beats at the same address, and queues nothing. -/
theorem idle_gap_is_neutral (c : Cfg) (s : State) (i : AvIn) (p : PortResp)
    (hs : s.fsm = .burstWrite) (hw : i.write = false) (hb : s.burstCount > 0) :
    (step c s i p).1.fsm = .burstWrite ∧ (step c s i p).1.burstCount = s.burstCount ∧
    (step c s i p).1.address = s.address ∧
    (step c s i p).1.cmdFifo = Fifo.step (fcfg c) s.cmdFifo false s.address p.cmdReady ∧
    (step c s i p).1.wFifo = Fifo.step (fcfg c) s.wFifo false (i.writedata, i.byteenable) p.wReady := by
  have hregs := bw_regs c s i p hs
  simp only [beat_burst_write c s i p hs, hw] at hregs
  exact ⟨(bw_exit c s i p hs).resolve_right (fun h => by omega), hregs⟩

/-- run while the FSM is in BURST_WRITE; collect the accepted beats as (address, data, byte enables) -/
def bwrun (c : Cfg) : State → List (AvIn × PortResp) → State × List (Nat × Nat × Nat)
  | s, [] => (s, [])
  | s, (i, p) :: rest =>
    if s.fsm = .burstWrite then
      let r := bwrun c (step c s i p).1 rest
      (r.1, if beat c s i p then (s.address, i.writedata, i.byteenable) :: r.2 else r.2)
    else (s, [])

/-- **Write bursts.** From the start of a burst of `n` beats at address `a0`, under every master behaviour (idle
gaps, any address / burstcount after the first beat) and every port timing: the accepted beats are numbered
consecutively, beat `k` is queued for address `a0 + k·increment` with the data and byte enables the master presents
in the cycle it is accepted, never more than `n` beats are accepted, and the FSM leaves the burst only after all `n`. -/
theorem write_burst_beats (c : Cfg) (a0 n : Nat) (hn : n < 512) (ins : List (AvIn × PortResp)) (s : State) (k : Nat)
    (h : BWInv c a0 n s k) :
    ∃ m, BWInv c a0 n (bwrun c s ins).1 (k + m) ∧
      (bwrun c s ins).2.map (·.1) = (List.range' k m).map (fun j => (a0 + j * c.inc) % 2 ^ c.aw) := by
  induction ins generalizing s k with
  | nil => exact ⟨0, by simpa [bwrun] using h, by simp [bwrun]⟩
  | cons ip rest ih =>
    obtain ⟨i, p⟩ := ip
    by_cases hs : s.fsm = .burstWrite
    · have ha : s.address = (a0 + k * c.inc) % 2 ^ c.aw := by
        simp only [BWInv, hs] at h; exact h.2.2
      have := Lists.collect_step k (fun _ => ha) (ih _ _ (bw_step c a0 n k s i p hn hs h))
      simpa [bwrun, hs, apply_ite (List.map _)] using this
    · exact ⟨0, by simpa [bwrun, hs] using h, by simp [bwrun, hs]⟩

/-- entering a write burst: the first command of a burst latches address (relative to the base) and beat count, and is
not accepted yet (waitrequest stays high until the first beat is queued in BURST_WRITE) -/
theorem write_burst_entry (c : Cfg) (s : State) (i : AvIn) (p : PortResp) (hs : s.fsm = .start)
    (hw : i.write = true) (hr : i.read = false) (hb : i.burstcount > 1) (hlt : i.burstcount < 512) :
    (step c s i p).2.waitrequest = true ∧ BWInv c (relAddr c i.address) i.burstcount (step c s i p).1 0 := by
  simp [step, hs, hw, hr, hb, BWInv, Nat.mod_eq_of_lt hlt, relAddr_mod]

/-- `kc` read commands issued, `kr` read beats returned of a burst of `n` -/
def BRInv (c : Cfg) (a0 n : Nat) (s : State) (kc kr : Nat) : Prop :=
  match s.fsm with
  | .burstRead =>
    kr < n ∧ s.burstCount = n - kr ∧
    (if s.cmdReadySeen then kc = n else kc < n ∧ s.cmdReadyCount = n - kc ∧ s.address = (a0 + kc * c.inc) % 2 ^ c.aw)
  | _ => kr = n ∧ kc ≤ n

/-- the beat counter's share of `BRInv`, independent of what the command side does in the same clock -/
theorem br_beats (n kr bc : Nat) (rv : Bool) (hn : n < 512) (hkr : kr < n) (hbc : bc = n - kr) :
    let kr' := if rv then kr + 1 else kr
    if rv && bc == 1 then kr' = n else kr' < n ∧ (if rv then (bc + 511) % 512 else bc) = n - kr' := by
  subst hbc
  cases rv
  · simpa using hkr
  · simp only [Bool.true_and, beq_iff_eq, if_true]; split <;> omega

/-- `BRInv`'s third conjunct in BURST_READ, verbatim -/
def CmdsOwed (a0 inc M n kc : Nat) (seen : Bool) (cc ad : Nat) : Prop :=
  if seen then kc = n else kc < n ∧ cc = n - kc ∧ ad = (a0 + kc * inc) % M

theorem CmdsOwed.le {a0 inc M n kc cc ad : Nat} {seen : Bool} (h : CmdsOwed a0 inc M n kc seen cc ad) : kc ≤ n := by
  unfold CmdsOwed at h; split at h <;> omega

theorem cmds_step (a0 inc M n kc cc ad : Nat) (seen cr : Bool) (hn : n < 512) (h : CmdsOwed a0 inc M n kc seen cc ad) :
    CmdsOwed a0 inc M n (if !seen && cr then kc + 1 else kc) (if cr && cc == 1 then true else seen)
      (if cr then (cc + 511) % 512 else cc) (if cr then (ad + inc) % M else ad) := by
  unfold CmdsOwed at *
  cases seen
  · obtain ⟨hkc, hcc, ha⟩ := (by simpa using h : _ ∧ _ ∧ _)
    cases cr
    · simpa using ⟨hkc, hcc, ha⟩
    · simp only [Bool.true_and, beq_iff_eq]
      split
      · simp; omega
      · simp; exact ⟨by omega, by omega, by rw [ha, addr_succ]⟩
  · simpa using h

/-- **Read bursts.** One clock of BURST_READ: a command is issued iff the port takes it while commands are still
owed, it carries address `a0 + kc·increment` and `last` exactly on the burst's final command (fix ce1ec54); every
word the port returns is one `readdatavalid` beat with that word; the FSM leaves after the `n`-th beat. -/
theorem br_step (c : Cfg) (a0 n kc kr : Nat) (s : State) (i : AvIn) (p : PortResp) (hn : n < 512)
    (hs : s.fsm = .burstRead) (h : BRInv c a0 n s kc kr) :
    BRInv c a0 n (step c s i p).1 (if ((portReq c s i).cmdValid && p.cmdReady) then kc + 1 else kc) (if p.rValid then kr + 1 else kr) ∧
    (((portReq c s i).cmdValid && p.cmdReady) = true →
      (portReq c s i).cmdAddr = (a0 + kc * c.inc) % 2 ^ c.aw ∧ (portReq c s i).cmdWe = false ∧
      (portReq c s i).cmdLast = decide (kc + 1 = n)) ∧
    (step c s i p).2.readdatavalid = p.rValid ∧ (p.rValid = true → (step c s i p).2.readdata = p.rData) ∧
    (step c s i p).2.waitrequest = true := by
  simp only [BRInv, hs] at h
  obtain ⟨hkr, hbc, hc⟩ := h
  have hB := br_beats n kr s.burstCount p.rValid hn hkr hbc
  have hC := cmds_step a0 c.inc (2 ^ c.aw) n kc s.cmdReadyCount s.address s.cmdReadySeen p.cmdReady hn hc
  simp only [step, portReq, hs]
  refine ⟨?_, fun hiss => ?_, trivial, fun h => by simp [h], trivial⟩
  · by_cases hl : (p.rValid && s.burstCount == 1) = true
    · simp only [hl] at hB ⊢
      exact ⟨hB, hC.le⟩
    · simp only [BRInv, if_neg hl] at hB ⊢
      exact ⟨hB.1, hB.2, hC⟩
  · obtain ⟨hseen, -⟩ : s.cmdReadySeen = false ∧ p.cmdReady = true := by simpa using hiss
    obtain ⟨hkc, hcc, ha⟩ := (by simpa [hseen] using hc : _ ∧ _ ∧ _)
    refine ⟨ha, trivial, ?_⟩
    rw [Bool.eq_iff_iff, beq_iff_eq, decide_eq_true_iff]; omega

/-- entering a read burst: accepted at once (waitrequest low), `n` commands and `n` beats owed from the base-relative address -/
theorem read_burst_entry (c : Cfg) (s : State) (i : AvIn) (p : PortResp) (hs : s.fsm = .start)
    (hr : i.read = true) (hb : i.burstcount > 1) (hlt : i.burstcount < 512) :
    (step c s i p).2.waitrequest = false ∧ BRInv c (relAddr c i.address) i.burstcount (step c s i p).1 0 0 := by
  simp [step, hs, hr, hb, BRInv, relAddr_mod]
  omega

example : BWInv { aw := 8 } 5 4 { fsm := .burstWrite, burstCount := 4, address := 5 } 0 := by simp [BWInv]
example : BRInv { aw := 8 } 5 4 { fsm := .burstRead, burstCount := 4, cmdReadyCount := 4, address := 5 } 0 0 := by simp [BRInv]

end C11
