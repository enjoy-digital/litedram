/-
C07: width-converted ports behave like one memory at the narrower or wider width.
The full-strength statement of C07 - for every master obeying the port rules and every controller-side timing the
user port is a byte-addressed view of the controller-side memory - is NOT proved here: for the up-converter it is
refuted by the two witnesses `up_descending_misplaced` and `up_repeated_misaligned` (known finding), and for ascending
streams and the down-converter it is evaluated on the real converters by the harness with the PortMemory specification
(Spec/PortMemory.lean) rather than proved. What is proved for every schedule: the down-converter's command expansion,
write-beat order and read-data regrouping (for an always-ready user), the up-converter's select-mask construction and
byte-enable masking, and the chunk/word view arithmetic.
-/
import LitedramVerif.Model.Adapter
import LitedramVerif.Spec.AdapterWitness
import LitedramVerif.Proofs.Queue
import LitedramVerif.Proofs.Lists
namespace C07
open Adapter

/-! ### the byte-addressed view: a wide word is the concatenation of its narrow chunks -/

def splitW (width : Nat) : Nat → Nat → List Nat
  | 0, _ => []
  | n + 1, w => (w % 2 ^ width) :: splitW width n (w / 2 ^ width)

def joinW (width : Nat) : List Nat → Nat
  | [] => 0
  | c :: cs => c + 2 ^ width * joinW width cs

theorem splitW_length (width n w : Nat) : (splitW width n w).length = n := by
  induction n generalizing w with
  | zero => rfl
  | succ n ih => simp [splitW, ih]

theorem joinW_splitW (width n w : Nat) : joinW width (splitW width n w) = w % 2 ^ (width * n) := by
  induction n generalizing w with
  | zero => simp [splitW, joinW, Nat.mod_one]
  | succ n ih =>
    simp only [splitW, joinW, ih]
    rw [Nat.mul_succ, Nat.pow_add, Nat.mul_comm (2 ^ (width * n)), Nat.mod_mul]

theorem splitW_joinW (width : Nat) (cs : List Nat) (h : ∀ c ∈ cs, c < 2 ^ width) :
    splitW width cs.length (joinW width cs) = cs := by
  induction cs with
  | nil => rfl
  | cons c cs ih =>
    have hc : c < 2 ^ width := h c (by simp)
    simp only [List.length_cons, splitW, joinW]
    rw [NatBits.join_mod _ hc, NatBits.join_div _ hc, ih (fun x hx => h x (by simp [hx]))]

/-- the address arithmetic of the view: narrow address `a` is chunk `a % ratio` of wide word `a / ratio` -/
theorem view_address (ratio a : Nat) : (a / ratio) * ratio + a % ratio = a := by
  rw [Nat.mul_comm]; exact Nat.div_add_mod a ratio

/-- `port_to.cmd.addr.eq(cmd_addr*ratio + cmd_count)`, cut to that signal's width -/
def expand (c : Cfg) (addr : Nat) (we : Bool) : List (Nat × Bool) :=
  (List.range c.ratio).map (fun j => ((addr * c.ratio + j) % 2 ^ c.toAddrBits, we))

/-- commands the converter still owes the controller side in state `s` -/
def owed (c : Cfg) (s : DState) : List (Nat × Bool) :=
  if s.convert then (expand c s.cmdAddr s.cmdWe).drop s.cmdCount else []

/-- run the model; collect the user-side accepted commands and the controller-side issued commands -/
def drun (c : Cfg) : DState → List DIn → DState × List (Nat × Bool) × List (Nat × Bool)
  | s, [] => (s, [], [])
  | s, i :: is =>
    let o := (dstep c s i).2
    let rest := drun c (dstep c s i).1 is
    (rest.1,
     (if i.cmdValid && o.cmdReady then (i.cmdAddr, i.cmdWe) :: rest.2.1 else rest.2.1),
     (if o.toCmdValid && i.toCmdReady then (o.toCmdAddr, o.toCmdWe) :: rest.2.2 else rest.2.2))

def DInv (c : Cfg) (s : DState) : Prop := s.convert = true → s.cmdCount < c.ratio

theorem expand_drop (c : Cfg) (a : Nat) (we : Bool) (k : Nat) (hk : k < c.ratio) :
    (expand c a we).drop k = ((a * c.ratio + k) % 2 ^ c.toAddrBits, we) :: (expand c a we).drop (k + 1) := by
  unfold expand
  rw [← List.map_drop, List.drop_eq_getElem_cons (by simpa using hk)]
  simp

theorem dstep_cmd (c : Cfg) (s : DState) (i : DIn) (hr : c.ratio = 2 ^ c.logRatio) (h : DInv c s) :
    let o := (dstep c s i).2
    let s' := (dstep c s i).1
    DInv c s' ∧
    (if o.toCmdValid && i.toCmdReady then [(o.toCmdAddr, o.toCmdWe)] else []) ++ owed c s' =
      owed c s ++ (if i.cmdValid && o.cmdReady then expand c i.cmdAddr i.cmdWe else []) := by
  have hpos : 0 < c.ratio := by rw [hr]; exact Nat.two_pow_pos _
  cases hc : s.convert
  · cases hv : i.cmdValid <;> simp [dstep, DInv, owed, hc, hv, hpos]
  · have hk : s.cmdCount < c.ratio := h hc
    cases ht : i.toCmdReady
    · simp [dstep, DInv, owed, hc, ht, hk]
    · by_cases hl : s.cmdCount = c.ratio - 1
      · have : (expand c s.cmdAddr s.cmdWe).drop (c.ratio - 1 + 1) = [] := by
          simp [expand]; omega
        simp [dstep, DInv, owed, hc, ht, hl, expand_drop c s.cmdAddr s.cmdWe (c.ratio - 1) (by omega), this]
      · have hlt : s.cmdCount + 1 < c.ratio := by omega
        have hm : (s.cmdCount + 1) % 2 ^ c.logRatio = s.cmdCount + 1 := Nat.mod_eq_of_lt (by rw [← hr]; exact hlt)
        simp [dstep, DInv, owed, hc, ht, hl, hm, hlt, expand_drop c s.cmdAddr s.cmdWe s.cmdCount hk]

/-- **Down-converter, commands.** Under every schedule of user commands and controller-side acceptance, the commands
issued to the controller, followed by those still owed, are exactly the expansion `addr·ratio + 0 … ratio-1` (same
`we`) of the accepted user commands, in order: none lost, duplicated or reordered. -/
theorem down_commands (c : Cfg) (hr : c.ratio = 2 ^ c.logRatio) (ins : List DIn) (s : DState) (h : DInv c s) :
    (drun c s ins).2.2 ++ owed c (drun c s ins).1 =
      owed c s ++ (drun c s ins).2.1.flatMap (fun p => expand c p.1 p.2) := by
  induction ins generalizing s with
  | nil => simp [drun]
  | cons i is ih =>
    obtain ⟨hinv, hstep⟩ := dstep_cmd c s i hr h
    have := (Queue.hist_cons hstep (ih _ hinv).symm).symm
    rw [← Lists.ite_cons] at this
    cases ha : (i.cmdValid && (dstep c s i).2.cmdReady) <;> simpa [drun, ha] using this

theorem down_commands_from_reset (c : Cfg) (hr : c.ratio = 2 ^ c.logRatio) (ins : List DIn) :
    (drun c (DState.init c) ins).2.2 ++ owed c (drun c (DState.init c) ins).1 =
      (drun c (DState.init c) ins).2.1.flatMap (fun p => expand c p.1 p.2) := by
  have := down_commands c hr ins (DState.init c) (by simp [DInv, DState.init])
  simpa [owed, DState.init] using this

/-- collect the controller-side write beats: (chunk index used, chunk sent, user's word taken in this beat) -/
def dwrun (c : Cfg) : DState → List DIn → DState × List (Nat × Chunk × Bool)
  | s, [] => (s, [])
  | s, i :: is =>
    let o := (dstep c s i).2
    let rest := dwrun c (dstep c s i).1 is
    (rest.1, if o.toWValid && i.toWReady then (s.wmux, o.toWData, i.wValid && o.wReady) :: rest.2 else rest.2)

theorem downStep_mod (ratio k : Nat) (hpos : 0 < ratio) (v r : Bool) :
    downStep ratio (k % ratio) v r = (if v && r then k + 1 else k) % ratio := by
  unfold downStep
  split
  · rw [Queue.succ_mod_wrap _ _ (Nat.mod_lt k hpos), Nat.mod_add_mod]
  · rfl

/-- **Down-converter, write data.** Counting the write beats taken by the controller from reset, beat number `k`
carries chunk `k mod ratio` (mirrored when `reverse`) of the word the user presents in that cycle, and the user's word
is taken exactly on the beats with `k mod ratio = ratio - 1`: a master that holds its word until taken sees it cut
into its `ratio` chunks, each sent once, in order. -/
theorem down_wdata_beats (c : Cfg) (hw : c.hasW = true) (hpos : 0 < c.ratio) (ins : List DIn) (s : DState) (k : Nat)
    (hk : s.wmux = k % c.ratio) :
    ∀ n (b : Nat × Chunk × Bool), (dwrun c s ins).2[n]? = some b →
      b.1 = (k + n) % c.ratio ∧ b.2.2 = decide ((k + n) % c.ratio = c.ratio - 1) ∧
      ∃ i ∈ ins, b.2.1 = downData c.ratio c.reverse ((k + n) % c.ratio) i.wData := by
  induction ins generalizing s k with
  | nil => intro n b h; simp [dwrun] at h
  | cons i is ih =>
    intro n b h
    have hbeat : ((dstep c s i).2.toWValid && i.toWReady) = (i.wValid && i.toWReady) := by simp [dstep, hw]
    have hnext : (dstep c s i).1.wmux = (if i.wValid && i.toWReady then k + 1 else k) % c.ratio := by
      simp only [dstep, hw, if_true, hk, downStep_mod c.ratio k hpos]
    simp only [dwrun, hbeat] at h
    cases hb : (i.wValid && i.toWReady) <;> simp only [hb] at h hnext
    · obtain ⟨h1, h2, j, hj, h3⟩ := ih _ k hnext n b h
      exact ⟨h1, h2, j, by simp [hj], h3⟩
    · cases n with
      | zero =>
        obtain rfl : _ = b := Option.some.inj h
        refine ⟨by simpa using hk, ?_, i, by simp, by simp [dstep, hk]⟩
        obtain ⟨hv, ht⟩ : i.wValid = true ∧ i.toWReady = true := by simpa using hb
        simp only [dstep, hw, hv, ht, hk, Bool.true_and, Bool.and_true, Nat.add_zero]
        by_cases hl : k % c.ratio = c.ratio - 1 <;> simp [hl]
      | succ n =>
        obtain ⟨h1, h2, j, hj, h3⟩ := ih _ (k + 1) hnext n b (by simpa using h)
        rw [show k + 1 + n = k + (n + 1) by omega] at h1 h2 h3
        exact ⟨h1, h2, j, by simp [hj], h3⟩

theorem place_lt (ratio : Nat) (rev : Bool) (j : Nat) (h : j < ratio) : place ratio rev j < ratio := by
  unfold place; split <;> omega

theorem place_inj (ratio : Nat) (rev : Bool) (i j : Nat) (hi : i < ratio) (hj : j < ratio)
    (h : place ratio rev i = place ratio rev j) : i = j := by
  unfold place at h; split at h <;> omega

/-- the read-data regrouping register of the down-converter: `ws` = words taken from the controller so far,
`nd` = wide words delivered to the user so far -/
def RInv (c : Cfg) (u : UpS) (ws : List Nat) (nd : Nat) : Prop :=
  u.regs.length = c.ratio ∧ u.demux < c.ratio ∧
  (if u.strobeAll then
     u.demux = 0 ∧ ws.length = c.ratio * (nd + 1) ∧
     ∀ i, i < c.ratio → (u.regs.getD (place c.ratio c.reverse i) (0, 0)).1 = ws.getD (c.ratio * nd + i) 0
   else
     ws.length = c.ratio * nd + u.demux ∧
     ∀ i, i < u.demux → (u.regs.getD (place c.ratio c.reverse i) (0, 0)).1 = ws.getD (c.ratio * nd + i) 0)

theorem RInv.regs_length {c : Cfg} {u : UpS} {ws : List Nat} {nd : Nat} (h : RInv c u ws nd) : u.regs.length = c.ratio := h.1

theorem RInv.demux_lt {c : Cfg} {u : UpS} {ws : List Nat} {nd : Nat} (h : RInv c u ws nd) : u.demux < c.ratio := h.2.1

theorem RInv.full {c : Cfg} {u : UpS} {ws : List Nat} {nd : Nat} (h : RInv c u ws nd) (hs : u.strobeAll = true) :
    u.demux = 0 ∧ ws.length = c.ratio * (nd + 1) ∧
    ∀ i, i < c.ratio → (u.regs.getD (place c.ratio c.reverse i) (0, 0)).1 = ws.getD (c.ratio * nd + i) 0 := by
  simpa only [hs, if_true] using h.2.2

/-- both cases at once: with `strobeAll` the group being filled is the next one, still empty -/
theorem RInv.filling {c : Cfg} {u : UpS} {ws : List Nat} {nd : Nat} (h : RInv c u ws nd) :
    ws.length = c.ratio * (if u.strobeAll then nd + 1 else nd) + u.demux ∧
    ∀ i, i < u.demux →
      (u.regs.getD (place c.ratio c.reverse i) (0, 0)).1 = ws.getD (c.ratio * (if u.strobeAll then nd + 1 else nd) + i) 0 := by
  cases hs : u.strobeAll
  · simpa only [hs, Bool.false_eq_true, if_false] using h.2.2
  · have := h.full hs
    exact ⟨by simp; omega, fun i hi => by omega⟩

theorem rinv_init (c : Cfg) (h : 0 < c.ratio) : RInv c (UpS.init c.ratio) [] 0 := by
  simp [RInv, UpS.init, h]

theorem regs_extend (c : Cfg) (regs : List Chunk) (ws : List Nat) (base dm d : Nat) (hlen : regs.length = c.ratio)
    (hdm : dm < c.ratio) (hl : ws.length = base + dm)
    (hreg : ∀ i, i < dm → (regs.getD (place c.ratio c.reverse i) (0, 0)).1 = ws.getD (base + i) 0) :
    ∀ i, i < dm + 1 → ((regs.set (place c.ratio c.reverse dm) (d, 0)).getD (place c.ratio c.reverse i) (0, 0)).1 =
      (ws ++ [d]).getD (base + i) 0 := by
  intro i hi
  by_cases h : i = dm
  · subst h
    rw [List.getD_eq_getElem?_getD, List.getElem?_set_self (by rw [hlen]; exact place_lt _ _ _ hdm)]
    simp [← hl]
  · have hne : place c.ratio c.reverse dm ≠ place c.ratio c.reverse i := fun e =>
      h (place_inj _ _ _ _ (by omega) hdm e.symm)
    rw [List.getD_eq_getElem?_getD, List.getElem?_set_ne hne, ← List.getD_eq_getElem?_getD, hreg i (by omega)]
    simp [List.getElem?_append_left (show base + i < ws.length by omega)]

theorem upS_step_ready (ratio : Nat) (rev : Bool) (u : UpS) (v : Bool) (d : Chunk) :
    u.step ratio rev v d true =
      { demux := if v then (if u.demux == ratio - 1 then 0 else u.demux + 1) else u.demux
        strobeAll := v && u.demux == ratio - 1
        regs := if v then u.regs.set (place ratio rev u.demux) d else u.regs } := by
  cases v <;> simp [UpS.step, UpS.sinkReady]
  split <;> simp [*]

/-- the user is ready, so a complete register counts as delivered -/
theorem rup_step (c : Cfg) (u : UpS) (ws : List Nat) (nd : Nat) (v : Bool) (d : Nat)
    (h : RInv c u ws nd) :
    RInv c (u.step c.ratio c.reverse v (d, 0) true) (if v then ws ++ [d] else ws) (if u.strobeAll then nd + 1 else nd) := by
  have hlen := h.regs_length
  have hdm := h.demux_lt
  obtain ⟨hl, hreg⟩ := h.filling
  rw [upS_step_ready]; unfold RInv; dsimp only
  generalize hbase : c.ratio * (if u.strobeAll then nd + 1 else nd) = base at hl hreg ⊢
  cases v
  · exact ⟨hlen, hdm, hl, hreg⟩
  · have hext := regs_extend c u.regs ws base u.demux d hlen hdm hl hreg
    have hlen' : (ws ++ [d]).length = base + (u.demux + 1) := by simp [hl, Nat.add_assoc]
    cases hlast : u.demux == c.ratio - 1 <;>
      simp only [Bool.false_eq_true, if_false, if_true]
    · exact ⟨by simp [hlen], by have := beq_eq_false_iff_ne.mp hlast; omega, hlen', hext⟩
    · have := beq_iff_eq.mp hlast
      exact ⟨by simp [hlen], by omega, trivial, by rw [hlen', Nat.mul_add]; omega,
        fun i hi => hext i (by omega)⟩

theorem rinv_delivered (c : Cfg) (u : UpS) (ws more : List Nat) (nd : Nat) (h : RInv c u ws nd) (hs : u.strobeAll = true) :
    ∀ i, i < c.ratio →
      (u.regs.map (·.1)).getD (place c.ratio c.reverse i) 0 = (ws ++ more).getD (c.ratio * nd + i) 0 := by
  intro i hi
  obtain ⟨-, hl, hreg⟩ := h.full hs
  rw [List.getD_eq_getElem?_getD (l := ws ++ more), List.getElem?_append_left (by rw [hl, Nat.mul_add]; omega),
    ← List.getD_eq_getElem?_getD, ← hreg i hi]
  simp only [List.getD_eq_getElem?_getD, List.getElem?_map]
  cases u.regs[place c.ratio c.reverse i]? <;> simp

theorem dstep_read (c : Cfg) (s : DState) (e : DIn) (hr : c.hasR = true) (hre : e.rReady = true) :
    (dstep c s e).1.rup = s.rup.step c.ratio c.reverse e.toRValid (e.toRData, 0) true ∧
    (dstep c s e).2.toRReady = true ∧ (dstep c s e).2.rValid = s.rup.strobeAll ∧
    (dstep c s e).2.rData = s.rup.regs.map (·.1) := by
  simp [dstep, hr, hre, UpS.sinkReady]

/-- run the down-converter; collect the controller read words taken and the wide words delivered to the user -/
def drrun (c : Cfg) : DState → List DIn → List Nat × List (List Nat)
  | _, [] => ([], [])
  | s, i :: is =>
    let o := (dstep c s i).2
    let rest := drrun c (dstep c s i).1 is
    ((if i.toRValid && o.toRReady then i.toRData :: rest.1 else rest.1),
     (if o.rValid && i.rReady then o.rData :: rest.2 else rest.2))

/-- **Down-converter, read data.** With a user that always accepts read data, under every controller-side timing:
every controller read word is taken (none can be lost), and the `m`-th wide word delivered to the user consists of
controller words `ratio·m … ratio·m + ratio − 1`, word `i` of the group in chunk `place i` - regrouped in order,
none dropped or repeated. -/
theorem down_rdata_regrouped (c : Cfg) (h2 : 2 ≤ c.ratio) (hr : c.hasR = true) (ins : List DIn)
    (hrdy : ∀ i ∈ ins, i.rReady = true) (s : DState) (ws0 : List Nat) (nd0 : Nat) (h : RInv c s.rup ws0 nd0) :
    ∀ m, m < (drrun c s ins).2.length → ∀ i, i < c.ratio →
      ((drrun c s ins).2.getD m []).getD (place c.ratio c.reverse i) 0 =
        (ws0 ++ (drrun c s ins).1).getD (c.ratio * (nd0 + m) + i) 0 := by
  induction ins generalizing s ws0 nd0 with
  | nil => intro m hm; simp [drrun] at hm
  | cons e es ih =>
    intro m hm i hi
    have hre : e.rReady = true := hrdy e (by simp)
    obtain ⟨hrup', hready, hvalid, hdata⟩ := dstep_read c s e hr hre
    have hinv := rup_step c s.rup ws0 nd0 e.toRValid e.toRData h
    rw [← hrup'] at hinv
    have ih' := ih (fun j hj => hrdy j (by simp [hj])) (dstep c s e).1 _ _ hinv
    simp only [drrun, hready, Bool.and_true, hvalid, hre, hdata] at hm ⊢
    rw [Lists.ite_snoc_append] at ih'
    cases hs : s.rup.strobeAll
    · simp only [hs] at hm ih' ⊢
      exact ih' m hm i hi
    · simp only [hs, if_true] at hm ih' ⊢
      cases m with
      | zero =>
        exact rinv_delivered c s.rup ws0 _ nd0 h hs i hi
      | succ m =>
        simp only [List.length_cons] at hm
        have := ih' m (by omega) i hi
        simp only [List.getD_cons_succ]
        rw [this, show nd0 + 1 + m = nd0 + (m + 1) by omega]

/-- **Up-converter, byte enables.** In the wide word handed to the controller, a chunk whose bit is not in the latched
select mask has all its byte enables cleared, and a selected chunk keeps the user's byte enables and data: a write can
only update bytes of the narrow words that were part of the burst, under the user's own enables. -/
theorem maskWide_chunk (c : Cfg) (wsel : Nat) (w : List Chunk) (j : Nat) (hj : j < c.ratio) :
    (maskWide c wsel w)[j]? =
      some ((w.getD j (0, 0)).1, if wsel.testBit (place c.ratio c.reverse j) then (w.getD j (0, 0)).2 else 0) := by
  simp [maskWide, hj]

theorem maskWide_unselected (c : Cfg) (wsel : Nat) (w : List Chunk) (j : Nat) (hj : j < c.ratio)
    (hs : wsel.testBit (place c.ratio c.reverse j) = false) :
    ((maskWide c wsel w).getD j (0, 0)).2 = 0 := by
  simp [maskWide_chunk c wsel w j hj, hs]

/-- the select mask of a burst is the set of the low address parts of its commands: first command … -/
theorem sel_first (c : Cfg) (s : UState) (i : UIn) (hn : s.fsm = .new) (ha : (ustep c s i).2.cmdReady = true) :
    (ustep c s i).1.sel = 2 ^ (i.cmdAddr % 2 ^ c.logRatio) ∧ (ustep c s i).1.cmdAddr = i.cmdAddr ∧
    (ustep c s i).1.cmdWe = i.cmdWe := by
  simp only [ustep, hn] at ha ⊢
  simp [ha]

/-- … and every further command accepted while filling adds its bit, and is accepted only if it has the same type and
the same wide address as the burst (so a burst never mixes reads with writes or two wide words) -/
theorem sel_fill (c : Cfg) (s : UState) (i : UIn) (hf : s.fsm = .fill) (ha : (ustep c s i).2.cmdReady = true) :
    (ustep c s i).1.sel = s.sel ||| 2 ^ (i.cmdAddr % 2 ^ c.logRatio) ∧
    i.cmdWe = s.cmdWe ∧ i.cmdAddr / 2 ^ c.logRatio = s.cmdAddr / 2 ^ c.logRatio ∧ (ustep c s i).1.fsm = .fill := by
  simp only [ustep, hf] at ha ⊢
  -- accepted while filling: `nextCmd` is false, so none of its five reasons to close the burst holds
  simp only [Bool.and_eq_true, Bool.not_eq_true', Bool.or_eq_false_iff, bne_eq_false_iff_eq] at ha
  obtain ⟨⟨⟨⟨⟨haddr, hwe⟩, hfull⟩, hlast⟩, hflush⟩, hv⟩ := ha
  simp [haddr, hwe, hfull, hlast, hflush, hv]

/-! ### the property is false of the up-converter for non-ascending addresses inside one wide word (known finding) -/
open AdapterWitness in
/-- **Descending addresses are misplaced.** The user writes 0xAA to address 5 and then 0xBB to address 4; both are
accepted (cycles 0, 1), one write command for wide word 2 is issued (cycle 5), and the word handed to the controller
has 0xAA in chunk 0 (= address 4) and 0xBB in chunk 1 (= address 5): swapped.  The converter consumes the write data in
chunk order, not in command order. The harness replays these inputs on the real converter on every run. -/
theorem up_descending_misplaced :
    (outs cfg (UState.init cfg) descending).map digest =
      [(true, false, 0, false, []), (true, false, 0, false, []), (false, false, 0, false, []), (false, false, 0, false, []),
       (false, false, 0, false, []), (false, true, 2, false, []),
       (false, false, 0, true, [(0xAA, 1), (0xBB, 1)]), (false, false, 0, true, [(0xAA, 1), (0xBB, 1)])] := by
  rfl

open AdapterWitness in
/-- **Repeated addresses desynchronise the data stream.** Two writes to address 4 (0x11, 0x22) set one select bit, so
only one data word is consumed; the later write of 0x33 to address 6 (wide word 3, cycle 10) is then sent with the stale
0x22. -/
theorem up_repeated_misaligned :
    ((outs cfg (UState.init cfg) repeated).map digest).drop 10 =
      [(false, true, 3, true, [(0x11, 1), (0, 0)]), (false, false, 0, true, [(0x11, 1), (0, 0)]),
       (false, false, 0, true, [(0x22, 1), (0, 0)]), (false, false, 0, true, [(0x22, 1), (0, 0)]),
       (false, false, 0, true, [(0x22, 1), (0, 0)])] := by
  rfl

example : DInv { ratio := 4, toAddrBits := 6, logRatio := 2 } (DState.init { ratio := 4, toAddrBits := 6, logRatio := 2 }) := by
  simp [DInv, DState.init]
example : (4 : Nat) = 2 ^ 2 := by decide

end C07
