/-
C19, data path of one bank of the simulation PHY/DRAM model — for every geometry and every legal operation sequence.

`SimPhy.step` is, on each bank, the function `bankStep` of the decoded strobes (`step_bank`).  `bank_data_refines` shows that
this function is a correct DRAM bank *with data*: against an abstract bank (`ABank`: open row, contents as a function
row → burst index → word, write bursts in flight as a delay line of `write_latency` stages; `aStep`, 12 lines) the model
returns for every READ exactly the stored word, for unbounded operation sequences and every geometry:
 * the flattened memory index `(row·ncols | col) >> log2(B)` never aliases two (row, burst) pairs (`word_index`,
   `word_index_injective` of Props/C19.lean, used here for the array update);
 * a write burst is stored `write_latency` cycles after its command at the row that was open *then* (the model looks at its
   row register only when the data arrives: sound because a legal trace does not precharge or activate the bank in between);
 * the data and byte masks are those of the cycle in which the burst is stored; `mergeBytes` is the byte-wise merge;
 * a READ returns the contents before that cycle's store; auto-precharge (which the model ignores) is harmless: the abstract
   bank closes, the model stays active on the same row until the (legal) re-activate reloads it.
Legality (`legalOp`) is JEDEC's: ACT only on a precharged bank, accesses only on an open row, no PRE/ACT while a write burst is
still on its way.  The read data then travels through the global read pipeline, `C19.read_latency_exact`.
What is not covered here: the routing of DFI phases to bank strobes for several commands per cycle (`bankIn`, one-hot `Case`s)
- co-simulated and compared with the independent reference `Spec/DramData` on random legal traces (`simphy_equals_reference_full`).
-/
import LitedramVerif.Props.C19
import LitedramVerif.Proofs.Lists
namespace C19
open SimPhy

/-- the per-bank strobes that `SimPhy.step` derives from the DFI phases (one-hot `Case` routing) -/
structure BankIn where
  activate : Bool
  actRow : Nat
  precharge : Bool
  bw : Bool
  bwCol : Nat
  rd : Bool
  rdCol : Nat

def bankIn (c : Cfg) (phases : List Phase) (nb : Nat) : BankIn :=
  let actSel := oneHot (phases.map isAct)
  let preSel := oneHot (phases.map isPre)
  let wrSel := oneHot (phases.map isWr)
  let rdSel := oneHot (phases.map isRd)
  let ph (i : Nat) : Phase := phases.getD i default
  { activate := match actSel with | some i => (ph i).bank == nb | none => false
    actRow := match actSel with | some i => (ph i).address % 2 ^ c.rowbits | none => 0
    precharge := match preSel with | some i => (ph i).bank == nb || (ph i).address.testBit 10 | none => false
    bw := match wrSel with | some i => (ph i).bank == nb | none => false
    bwCol := match wrSel with | some i => colOf c (ph i).address | none => 0
    rd := match rdSel with | some i => (ph i).bank == nb | none => false
    rdCol := match rdSel with | some i => colOf c (ph i).address | none => 0 }

def wrdataOf (c : Cfg) (phases : List Phase) : Nat :=
  (List.range c.nphases).foldl (fun acc i => acc ||| ((phases.getD i default).wrdata % 2 ^ c.phaseBits) <<< (i * c.phaseBits)) 0
def wrmaskOf (c : Cfg) (phases : List Phase) : Nat :=
  (List.range c.nphases).foldl (fun acc i => acc ||| ((phases.getD i default).wrdataMask % 2 ^ (c.phaseBits / 8)) <<< (i * (c.phaseBits / 8))) 0

/-- BankModel: one clock edge of one bank (the body of the per-bank map in `SimPhy.step`): new state, read strobe, read data -/
def bankStep (c : Cfg) (b : Bank) (i : BankIn) (wrdata wrmask : Nat) : Bank × Bool × Nat :=
  let ncols := 2 ^ c.colbits
  let nb8 := c.dataWidth / 8
  let stages := (i.bw, i.bwCol) :: b.wpipe
  let (write, writeCol) := stages.getD c.writeLatency (false, 0)
  let wpipe' := stages.take c.writeLatency
  let wraddr := ((b.row * ncols) ||| writeCol) >>> c.shift
  let rdaddr := ((b.row * ncols) ||| i.rdCol) >>> c.shift
  let readData := if b.active && i.rd then b.mem.getD rdaddr 0 else 0
  let mem' :=
    if b.active && write && wraddr < b.mem.size then
      if c.weGranularity == 0 then b.mem.set! wraddr wrdata
      else b.mem.set! wraddr (mergeBytes nb8 (b.mem.getD wraddr 0) wrdata wrmask)
    else b.mem
  let (active', row') := bankNext b.active b.row i.precharge i.activate i.actRow
  (({ active := active', row := row', mem := mem', wpipe := wpipe' } : Bank), i.rd, readData)

theorem step_eq (c : Cfg) (s : State) (phases : List Phase) :
    step c s phases =
      (let results := (Array.range c.nbanks).map fun nb =>
         bankStep c s.banks[nb]! (bankIn c phases nb) (wrdataOf c phases) (wrmaskOf c phases)
       let rstages := (results.any fun r => r.2.1, results.foldl (fun acc r => acc ||| r.2.2) 0) :: s.rpipe
       ({ banks := results.map (·.1), rpipe := rstages.take c.readLatency },
        { rddataValid := (rstages.getD c.readLatency (false, 0)).1, rddata := (rstages.getD c.readLatency (false, 0)).2 })) := rfl

theorem step_bank (c : Cfg) (s : State) (phases : List Phase) (nb : Nat) (h : nb < c.nbanks) :
    (step c s phases).1.banks[nb]! = (bankStep c s.banks[nb]! (bankIn c phases nb) (wrdataOf c phases) (wrmaskOf c phases)).1 := by
  rw [step_eq]; simp only [Array.map_map]; rw [Lists.getElem!_map_range _ _ _ h]; rfl

/-- open row, contents as a function of (row, burst index), and the write bursts whose data has not arrived yet (a delay
line of `write_latency` stages, newest first) -/
structure ABank where
  openRow : Option Nat
  mem : Nat → Nat → Nat
  inflight : List (Option (Nat × Nat))

inductive BOp
  | nop | act (r : Nat) | pre | wr (col : Nat) (ap : Bool) | rd (col : Nat) (ap : Bool)

def issuedOf (bc : Nat) (o : Option Nat) : BOp → Option (Nat × Nat)
  | .wr col _ => match o with | some r => some (r, col / bc) | none => none
  | _ => none

def rdataOf (bc : Nat) (a : ABank) : BOp → Option Nat
  | .rd col _ => match a.openRow with | some r => some (a.mem r (col / bc)) | none => none
  | _ => none

def openNext (o : Option Nat) : BOp → Option Nat
  | .act r => some r
  | .pre => none
  | .wr _ ap => if ap then none else o
  | .rd _ ap => if ap then none else o
  | .nop => o

def memNext (nb8 : Nat) (masks : Bool) (m : Nat → Nat → Nat) (word mask : Nat) : Option (Nat × Nat) → Nat → Nat → Nat
  | some (r, u) => fun r' u' => if r' = r ∧ u' = u then (if masks then DramData.merge nb8 (m r u) word mask else word) else m r' u'
  | none => m

/-- one controller cycle of the abstract bank: a write burst is stored `L` cycles after its command, at the row that was open
when the command was given, with the data and mask of the cycle in which it is stored; a read returns the contents before
this cycle's store; auto-precharge closes the bank -/
def aStep (L bc nb8 : Nat) (masks : Bool) (a : ABank) (op : BOp) (word mask : Nat) : ABank × Option Nat :=
  let stages := issuedOf bc a.openRow op :: a.inflight
  ({ openRow := openNext a.openRow op, mem := memNext nb8 masks a.mem word mask (stages.getD L none), inflight := stages.take L },
   rdataOf bc a op)

/-- what the bank may be asked to do (JEDEC): activate only when precharged, access only an open row, no precharge or
activate while a write burst is still on its way -/
def legalOp (c : Cfg) (a : ABank) : BOp → Prop
  | .nop => True
  | .act r => a.openRow = none ∧ r < 2 ^ c.rowbits ∧ ∀ x ∈ a.inflight, x = none
  | .pre => ∀ x ∈ a.inflight, x = none
  | .wr col _ => a.openRow.isSome = true ∧ col < 2 ^ c.colbits
  | .rd col _ => a.openRow.isSome = true ∧ col < 2 ^ c.colbits

def BOp.isRd : BOp → Bool
  | .rd _ _ => true
  | _ => false
def BOp.isWr : BOp → Bool
  | .wr _ _ => true
  | _ => false
def BOp.isAct : BOp → Bool
  | .act _ => true
  | _ => false
def BOp.isPre : BOp → Bool
  | .pre => true
  | _ => false

/-- the strobes the model's bank sees for an operation -/
def opIn : BOp → BankIn
  | .nop => ⟨false, 0, false, false, 0, false, 0⟩
  | .act r => ⟨true, r, false, false, 0, false, 0⟩
  | .pre => ⟨false, 0, true, false, 0, false, 0⟩
  | .wr col _ => ⟨false, 0, false, true, col, false, 0⟩
  | .rd col _ => ⟨false, 0, false, false, 0, true, col⟩

/-- the strobes `i` ask the bank for operation `op` (fields the model does not look at are free) -/
structure Matches (i : BankIn) (op : BOp) : Prop where
  act : i.activate = op.isAct
  actRow : ∀ r, op = .act r → i.actRow = r
  pre : i.precharge = op.isPre
  bw : i.bw = op.isWr
  bwCol : ∀ col ap, op = .wr col ap → i.bwCol = col
  rd : i.rd = op.isRd
  rdCol : ∀ col ap, op = .rd col ap → i.rdCol = col

theorem matches_opIn (op : BOp) : Matches (opIn op) op := by
  cases op <;>
    exact ⟨rfl, fun _ e => by cases e <;> rfl, rfl, rfl, fun _ _ e => by cases e <;> rfl, rfl, fun _ _ e => by cases e <;> rfl⟩

/-- `k` = log2 of the columns per burst; `rows` is `Refines a.openRow b.active b.row` of Props/C19.lean with the row in range -/
structure Rb (c : Cfg) (k : Nat) (b : Bank) (a : ABank) : Prop where
  size : b.mem.size = 2 ^ c.rowbits * 2 ^ (c.colbits - k)
  memEq : ∀ r u, r < 2 ^ c.rowbits → u < 2 ^ (c.colbits - k) → b.mem.getD (r * 2 ^ (c.colbits - k) + u) 0 = a.mem r u
  rows : ∀ r, a.openRow = some r → b.active = true ∧ b.row = r ∧ r < 2 ^ c.rowbits
  pipe : a.inflight = b.wpipe.map (fun st => if st.1 then some (b.row, st.2 / 2 ^ k) else none)
  pipeOk : ∀ st ∈ b.wpipe, st.1 = true → b.active = true ∧ b.row < 2 ^ c.rowbits ∧ st.2 < 2 ^ c.colbits
  len : b.wpipe.length = c.writeLatency

theorem merge_eq (n old new mask : Nat) : mergeBytes n old new mask = DramData.merge n old new mask := rfl

/-- what `Rb.pipe` maps over `b.wpipe`, for any `row` -/
def stageOf (k row : Nat) (st : Bool × Nat) : Option (Nat × Nat) := if st.1 then some (row, st.2 / 2 ^ k) else none

theorem stageOf_true {k row : Nat} {st : Bool × Nat} (h : st.1 = true) : stageOf k row st = some (row, st.2 / 2 ^ k) := if_pos h
theorem stageOf_false {k row : Nat} {st : Bool × Nat} (h : st.1 = false) : stageOf k row st = none := by simp [stageOf, h]

theorem idx_lt (R W r u : Nat) (hr : r < R) (hu : u < W) : r * W + u < R * W := by
  rw [Nat.add_comm, Nat.mul_comm r, Nat.mul_comm R]; exact NatBits.join_lt hu hr

theorem getD_store (arr : Array Nat) (R W r0 u0 r u v : Nat) (hs : arr.size = R * W) (hr0 : r0 < R) (hu0 : u0 < W) (hu : u < W) :
    (arr.set! (r0 * W + u0) v).getD (r * W + u) 0 = if r = r0 ∧ u = u0 then v else arr.getD (r * W + u) 0 := by
  have hlt : r0 * W + u0 < arr.size := hs ▸ idx_lt R W r0 u0 hr0 hu0
  have hinj : r0 * W + u0 = r * W + u ↔ r = r0 ∧ u = u0 :=
    ⟨fun e => by have := word_index_injective _ _ _ _ _ hu0 hu e; omega, fun ⟨e1, e2⟩ => by rw [e1, e2]⟩
  simp only [Array.set!_eq_setIfInBounds, Array.getD_eq_getD_getElem?, Array.getElem?_setIfInBounds, hlt, hinj]
  split <;> rfl

theorem burst_lt {k n col : Nat} (hk : k ≤ n) (hc : col < 2 ^ n) : col / 2 ^ k < 2 ^ (n - k) :=
  Nat.div_lt_of_lt_mul (NatBits.two_pow_mul (Nat.add_sub_cancel' hk) ▸ hc)

theorem shift_eq (c : Cfg) (k : Nat) (hw : c.burst * c.nphases = 2 ^ k) : c.shift = k := by
  simp only [Cfg.shift, hw]; exact Nat.log2_two_pow

def rowAfter (row : Nat) : BOp → Nat
  | .act r => r
  | _ => row
def activeAfter (active : Bool) : BOp → Bool
  | .act _ => true
  | .pre => false
  | _ => active

theorem bankNext_matches (active : Bool) (row : Nat) (i : BankIn) (op : BOp) (hm : Matches i op) :
    bankNext active row i.precharge i.activate i.actRow = (activeAfter active op, rowAfter row op) := by
  rw [hm.act, hm.pre]
  cases op with
  | act r => rw [hm.actRow r rfl]; rfl
  | _ => rfl

section stages
variable {c : Cfg} {k : Nat} {b : Bank} {a : ABank} {op : BOp} {i : BankIn}

theorem rb_open (h : Rb c k b a) (ho : a.openRow.isSome = true) :
    a.openRow = some b.row ∧ b.active = true ∧ b.row < 2 ^ c.rowbits := by
  obtain ⟨r, hr⟩ := Option.isSome_iff_exists.mp ho
  obtain ⟨h1, h2, h3⟩ := h.rows r hr
  exact ⟨h2 ▸ hr, h1, h2 ▸ h3⟩

theorem stages_eq (h : Rb c k b a) (hl : legalOp c a op) (hm : Matches i op) :
    issuedOf (2 ^ k) a.openRow op :: a.inflight = ((i.bw, i.bwCol) :: b.wpipe).map (stageOf k b.row) := by
  rw [h.pipe]
  congr 1
  cases op with
  | wr col ap => rw [stageOf_true hm.bw, (rb_open h hl.1).1, hm.bwCol col ap rfl]; rfl
  | _ => exact (stageOf_false hm.bw).symm

theorem stages_ok (h : Rb c k b a) (hl : legalOp c a op) (hm : Matches i op) :
    ∀ st ∈ (i.bw, i.bwCol) :: b.wpipe, st.1 = true → b.active = true ∧ b.row < 2 ^ c.rowbits ∧ st.2 < 2 ^ c.colbits := by
  refine List.forall_mem_cons.mpr ⟨fun ht => ?_, h.pipeOk⟩
  cases op with
  | wr col ap => exact ⟨(rb_open h hl.1).2.1, (rb_open h hl.1).2.2, hm.bwCol col ap rfl ▸ hl.2⟩
  | _ => cases hm.bw.symm.trans ht

/-- ACT and PRE, which alone touch the registers, need an empty delay line (`legalOp`) -/
theorem stages_keep (h : Rb c k b a) (hl : legalOp c a op) (hm : Matches i op) :
    ∀ st ∈ (i.bw, i.bwCol) :: b.wpipe, st.1 = true → activeAfter b.active op = b.active ∧ rowAfter b.row op = b.row := by
  intro st hst ht
  have hne : ¬ ∀ x ∈ issuedOf (2 ^ k) a.openRow op :: a.inflight, x = none := fun hall => by
    cases (stageOf_true ht).symm.trans (hall _ (stages_eq h hl hm ▸ List.mem_map_of_mem hst))
  cases op with
  | act r => exact (hne (List.forall_mem_cons.mpr ⟨rfl, hl.2.2⟩)).elim
  | pre => exact (hne (List.forall_mem_cons.mpr ⟨rfl, hl⟩)).elim
  | _ => exact ⟨rfl, rfl⟩

end stages

/-- **one clock edge**: the model's bank and the abstract bank stay in correspondence and return the same read data -/
theorem rb_step_in (c : Cfg) (k : Nat) (hw : c.burst * c.nphases = 2 ^ k) (hk : k ≤ c.colbits) (b : Bank) (a : ABank)
    (h : Rb c k b a) (op : BOp) (hl : legalOp c a op) (i : BankIn) (hm : Matches i op) (word mask : Nat) :
    Rb c k (bankStep c b i word mask).1 (aStep c.writeLatency (2 ^ k) (c.dataWidth / 8) (c.weGranularity != 0) a op word mask).1 ∧
    (bankStep c b i word mask).2.1 = op.isRd ∧
    (bankStep c b i word mask).2.2 =
      ((aStep c.writeLatency (2 ^ k) (c.dataWidth / 8) (c.weGranularity != 0) a op word mask).2).getD 0 := by
  have hkeep := stages_keep h hl hm
  have hland : ((i.bw, i.bwCol) :: b.wpipe).getD c.writeLatency (false, 0) ∈ (i.bw, i.bwCol) :: b.wpipe := by
    rw [List.getD_eq_getElem?_getD, List.getElem?_eq_getElem (by simp [h.len])]; exact List.getElem_mem _
  -- by `stages_eq` the same stage lands on both sides: `st` below
  simp only [bankStep, aStep, stages_eq h hl hm, Lists.getD_map_fn _ (stageOf k b.row) _ (false, 0) none rfl,
    bankNext_matches _ _ i op hm, shift_eq c k hw]
  generalize ((i.bw, i.bwCol) :: b.wpipe).getD c.writeLatency (false, 0) = st at hland
  refine ⟨{ size := ?size, memEq := fun r u hr hu => ?memEq, rows := fun r hr => ?rows, pipe := ?pipe,
            pipeOk := fun st hst ht => ?pipeOk, len := ?len }, hm.rd, ?rdata⟩
  case size => simp [apply_ite Array.size, h.size]
  case memEq =>
    cases hwr : st.1 with
    | false => simpa [stageOf_false hwr, memNext] using h.memEq r u hr hu
    | true =>
      obtain ⟨hba, hbr, hwc⟩ := stages_ok h hl hm st hland hwr
      have hu0 := burst_lt hk hwc
      simp only [hba, word_index _ _ _ _ hk hwc, h.size, idx_lt _ _ _ _ hbr hu0, decide_true, Bool.and_self, if_true,
        stageOf_true hwr, memNext]
      -- both mask modes store into that cell (`getD_store`); they differ in the stored value only
      simp only [apply_ite (Array.getD · (r * 2 ^ (c.colbits - k) + u) 0), getD_store _ _ _ _ _ _ _ _ h.size hbr hu0 hu,
        h.memEq _ _ hbr hu0, h.memEq r u hr hu, merge_eq]
      by_cases hg : c.weGranularity = 0 <;> simp [hg]
  case rows =>
    cases op with
    | nop => exact h.rows r hr
    | act r' => cases hr; exact ⟨rfl, rfl, hl.2.1⟩
    | pre => cases hr
    | wr _ ap | rd _ ap => cases ap <;> simp [openNext] at hr; exact h.rows r hr
  case pipe =>
    rw [← List.map_take]
    refine List.map_congr_left fun st hst => ?_
    show stageOf k b.row st = stageOf k (rowAfter b.row op) st
    cases ht : st.1 with
    | false => rw [stageOf_false ht, stageOf_false ht]
    | true => rw [(hkeep st (List.mem_of_mem_take hst) ht).2]
  case pipeOk =>
    have hst' := List.mem_of_mem_take hst
    rw [(hkeep st hst' ht).1, (hkeep st hst' ht).2]
    exact stages_ok h hl hm st hst' ht
  case len => simp only [List.length_take, List.length_cons, h.len]; omega
  case rdata =>
    cases op with
    | rd col ap =>
      obtain ⟨ho, hba, hbr⟩ := rb_open h hl.1
      simp only [rdataOf, ho, Option.getD_some, hba, hm.rd, hm.rdCol col ap rfl, BOp.isRd, Bool.and_self, if_true,
        word_index _ _ _ _ hk hl.2]
      exact h.memEq _ _ hbr (burst_lt hk hl.2)
    | _ => simp [rdataOf, hm.rd, BOp.isRd]

/-- read strobe and data the model's bank returns cycle by cycle -/
def bankRun (c : Cfg) : Bank → List (BOp × Nat × Nat) → List (Bool × Nat)
  | _, [] => []
  | b, (op, word, mask) :: rest =>
    ((bankStep c b (opIn op) word mask).2.1, (bankStep c b (opIn op) word mask).2.2) :: bankRun c (bankStep c b (opIn op) word mask).1 rest

def bankFinal (c : Cfg) : Bank → List (BOp × Nat × Nat) → Bank
  | b, [] => b
  | b, (op, word, mask) :: rest => bankFinal c (bankStep c b (opIn op) word mask).1 rest

def aRun (c : Cfg) (k : Nat) : ABank → List (BOp × Nat × Nat) → List (Option Nat)
  | _, [] => []
  | a, (op, word, mask) :: rest =>
    (aStep c.writeLatency (2 ^ k) (c.dataWidth / 8) (c.weGranularity != 0) a op word mask).2 ::
      aRun c k (aStep c.writeLatency (2 ^ k) (c.dataWidth / 8) (c.weGranularity != 0) a op word mask).1 rest

def aFinal (c : Cfg) (k : Nat) : ABank → List (BOp × Nat × Nat) → ABank
  | a, [] => a
  | a, (op, word, mask) :: rest => aFinal c k (aStep c.writeLatency (2 ^ k) (c.dataWidth / 8) (c.weGranularity != 0) a op word mask).1 rest

def legalRun (c : Cfg) (k : Nat) : ABank → List (BOp × Nat × Nat) → Prop
  | _, [] => True
  | a, (op, word, mask) :: rest =>
    legalOp c a op ∧ legalRun c k (aStep c.writeLatency (2 ^ k) (c.dataWidth / 8) (c.weGranularity != 0) a op word mask).1 rest

/-- **C19, one bank, every geometry, every legal operation sequence, unbounded length**: the model's bank returns, for every
READ, exactly the word the abstract bank holds (the data of the last write burst stored at that row and burst index, merged
under the byte masks, or the initial contents), and the two stay in correspondence (`Rb`: same contents word for word,
same open row, same write bursts in flight) -/
theorem bank_data_refines (c : Cfg) (k : Nat) (hw : c.burst * c.nphases = 2 ^ k) (hk : k ≤ c.colbits)
    (ops : List (BOp × Nat × Nat)) : ∀ (b : Bank) (a : ABank), Rb c k b a → legalRun c k a ops →
      bankRun c b ops = (List.zip ops (aRun c k a ops)).map (fun x => (x.1.1.isRd, x.2.getD 0)) ∧
      Rb c k (bankFinal c b ops) (aFinal c k a ops) := by
  induction ops with
  | nil => intro b a h _; exact ⟨rfl, h⟩
  | cons x rest ih =>
    obtain ⟨op, word, mask⟩ := x
    intro b a h hl
    obtain ⟨h1, h2, h3⟩ := rb_step_in c k hw hk b a h op hl.1 (opIn op) (matches_opIn op) word mask
    obtain ⟨i1, i2⟩ := ih _ _ h1 hl.2
    exact ⟨by simp only [bankRun, aRun, List.zip_cons_cons, List.map_cons, i1, h2, h3], i2⟩

theorem memLen_eq (c : Cfg) (k : Nat) (hw : c.burst * c.nphases = 2 ^ k) (hk : k ≤ c.colbits) :
    c.memLen = 2 ^ c.rowbits * 2 ^ (c.colbits - k) := by
  simp only [Cfg.memLen, hw, ← NatBits.two_pow_mul (Nat.add_sub_cancel' hk)]
  rw [Nat.mul_comm (2 ^ k), ← Nat.mul_assoc, Nat.mul_div_cancel _ (Nat.two_pow_pos k)]

/-- the abstract bank that corresponds to the model's bank after reset: precharged, nothing in flight, the initial image -/
def aInit (c : Cfg) (k : Nat) (b : Bank) : ABank :=
  { openRow := none, mem := fun r u => b.mem.getD (r * 2 ^ (c.colbits - k) + u) 0, inflight := List.replicate c.writeLatency none }

theorem rb_init (c : Cfg) (k : Nat) (hw : c.burst * c.nphases = 2 ^ k) (hk : k ≤ c.colbits) (initMem : Nat → Array Nat)
    (nb : Nat) (h : nb < c.nbanks) :
    Rb c k (SimPhy.init c initMem).banks[nb]! (aInit c k (SimPhy.init c initMem).banks[nb]!) := by
  simp only [SimPhy.init]; rw [Lists.getElem!_map_range _ _ _ h]
  refine { size := ?size, memEq := fun r u _ _ => rfl, rows := fun r hr => ?rows, pipe := ?pipe,
           pipeOk := fun st hst ht => ?pipeOk, len := List.length_replicate }
  case size => simp only [Array.size_extract, Array.size_append, Array.size_replicate, memLen_eq c k hw hk]; omega
  case rows => cases hr
  case pipe => rw [List.map_replicate]; rfl
  case pipeOk => rw [List.eq_of_mem_replicate hst] at ht; cases ht

/-! ### non-vacuity: a 2-bit-row, 4-column bank (bursts of 2 columns, write latency 1): write row 1 / burst 1 under a byte
mask, auto-precharge, re-activate, read it back -/
def cfgK : Cfg := { nphases := 1, nbanks := 1, rowbits := 2, colbits := 2, burst := 2, phaseBits := 16, writeLatency := 1,
                    readLatency := 2, weGranularity := 8 }
def opsK : List (BOp × Nat × Nat) :=
  [(.act 1, 0, 0), (.wr 2 true, 0, 0), (.nop, 0xBEEF, 0b01), (.act 1, 0, 0), (.rd 3 false, 0, 0), (.rd 0 false, 0, 0)]
def bankK : Bank := { mem := #[1, 2, 3, 4, 5, 6, 7, 8], wpipe := [(false, 0)] }

example : bankRun cfgK bankK opsK = [(false, 0), (false, 0), (false, 0), (false, 0), (true, 0xBE04), (true, 3)] := by decide
example : (aRun cfgK 1 (aInit cfgK 1 bankK) opsK) = [none, none, none, none, some 0xBE04, some 3] := by decide
example : legalRun cfgK 1 (aInit cfgK 1 bankK) opsK := by
  simp [legalRun, legalOp, aStep, aInit, opsK, cfgK, issuedOf, openNext]

end C19
