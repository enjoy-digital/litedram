/-
C12 — DMA reader and writer stream exactly once, in order, without overrun.

For `Model/Dma.lean`: the reader's reservation accounting for every FIFO shape (`reader_accounting`), its corollaries for the
unbuffered data FIFO with a ghost count `n` of reads in flight (`RInv`), and one step of the writer's data FIFO.  The stream-level
theorems are in `Props/C12_Stream.lean`.  The AXI flavour is covered by co-simulation and the monitors.
-/
import LitedramVerif.Proofs.FifoQueue
import LitedramVerif.Proofs.Lists
import LitedramVerif.Model.Dma
import LitedramVerif.Spec.DmaSpec
namespace C12
open Dma

/-- reservation invariant with the ghost `n` = read commands accepted whose data has not come back yet -/
def RInv (c : Cfg) (s : RState) (n : Nat) : Prop :=
  s.res.q.length = n + s.fifo.q.length ∧ s.res.q.length ≤ c.depth ∧ s.res.out = none ∧ s.fifo.out = none

def nNext (n : Nat) (o : ROut) (i : RIn) : Nat :=
  n + (if o.cmdValid && i.cmdReady then 1 else 0) - (if i.rdataValid then 1 else 0)

/-! `fValid`, `fSrcReady`, `resSrcReady`, `push`, `resValid` of `rstep` as functions: its FIFOs are `Fifo.step`s with them and its
outputs the terms below, all by `rfl` -/
def rFValid (c : Cfg) (s : RState) (i : RIn) : Bool := Fifo.srcValid (dataCfg c) s.fifo i.rdataValid
def rFReady (i : RIn) : Bool := i.srcReady || !i.enable
def rResReady (c : Cfg) (s : RState) (i : RIn) : Bool := rFValid c s i && rFReady i
def rPush (c : Cfg) (s : RState) (i : RIn) : Bool :=
  (i.enable && i.sinkValid && Fifo.sinkReady (resCfg c) s.res (rResReady c s i)) && i.cmdReady
def rResValid (c : Cfg) (s : RState) (i : RIn) : Bool := Fifo.srcValid (resCfg c) s.res (rPush c s i)

theorem rstep_accept (c : Cfg) (s : RState) (i : RIn) : ((rstep c s i).2.cmdValid && i.cmdReady) = rPush c s i := rfl
theorem rstep_srcValid (c : Cfg) (s : RState) (i : RIn) : (rstep c s i).2.srcValid = (rResValid c s i && rFValid c s i) := rfl
theorem rstep_srcData (c : Cfg) (s : RState) (i : RIn) :
    (rstep c s i).2.srcData = (Fifo.srcData (dataCfg c) s.fifo i.rdata).getD 0 := rfl
theorem rstep_srcLast (c : Cfg) (s : RState) (i : RIn) :
    (rstep c s i).2.srcLast = (rResValid c s i && (Fifo.srcData (resCfg c) s.res i.sinkLast).getD false) := rfl

/-- `Fifo.step_conserve` with both handshakes reduced to the strobes: `rPush` has the FIFO's `ready` in it (it gates `cmd.valid`), and
by `hfr` the pop strobe finds a mark -/
theorem res_conserve (c : Cfg) (hd : 1 ≤ c.depth) (s : RState) (i : RIn) (hwr : Fifo.WF (resCfg c) s.res)
    (hfr : rFValid c s i = true → rResValid c s i = true) :
    (if rResReady c s i then [(Fifo.srcData (resCfg c) s.res i.sinkLast).getD false] else []) ++ Fifo.contents (rstep c s i).1.res =
      Fifo.contents s.res ++ (if rPush c s i then [i.sinkLast] else []) := by
  have cr := Fifo.step_conserve (resCfg c) hd s.res hwr (rPush c s i) i.sinkLast (rResReady c s i) false
  have hpush : (rPush c s i && Fifo.sinkReady (resCfg c) s.res (rResReady c s i)) = rPush c s i :=
    Bool.and_eq_left_iff_imp.mpr fun h => by
      simp only [rPush, Bool.and_eq_true] at h
      exact h.1.2
  have hpop : (Fifo.srcValid (resCfg c) s.res (rPush c s i) && rResReady c s i) = rResReady c s i :=
    Bool.and_eq_right_iff_imp.mpr fun h => hfr (Bool.and_eq_true_iff.mp h).1
  rwa [hpush, hpop] at cr

structure Accounting (c : Cfg) (s : RState) (i : RIn) : Prop where
  room : i.rdataValid = true → (rstep c s i).2.rdataReady = true
  reserved : rFValid c s i = true → rResValid c s i = true
  resLen : (Fifo.contents (rstep c s i).1.res).length + (if rResReady c s i then 1 else 0) =
    (Fifo.contents s.res).length + (if rPush c s i then 1 else 0)
  fifoLen : (Fifo.contents (rstep c s i).1.fifo).length + (if rResReady c s i then 1 else 0) =
    (Fifo.contents s.fifo).length + (if i.rdataValid then 1 else 0)
  len_le : (Fifo.contents (rstep c s i).1.fifo).length ≤ (Fifo.contents (rstep c s i).1.res).length

/-- **The reservation accounting**, for every depth ≥ 1, buffered or not, enabled or not: a returned word finds room (the data FIFO is
shorter than the reservation FIFO, which is at most `depth` long); a buffered word has a reservation, so both FIFOs are popped
together; `len_le` re-establishes `hlen`. -/
theorem reader_accounting (c : Cfg) (hd : 1 ≤ c.depth) (s : RState) (i : RIn)
    (hwr : Fifo.WF (resCfg c) s.res) (hwf : Fifo.WF (dataCfg c) s.fifo)
    (hlen : (Fifo.contents s.fifo).length ≤ (Fifo.contents s.res).length)
    (hret : i.rdataValid = true → (Fifo.contents s.fifo).length < (Fifo.contents s.res).length) : Accounting c s i := by
  have hqr : (Fifo.contents s.res).length = s.res.q.length := by rw [Fifo.contents_eq_q hwr rfl]
  have hcap : s.res.q.length ≤ c.depth := hwr.cap
  have hroom : i.rdataValid = true → Fifo.sinkReady (dataCfg c) s.fifo (rFReady i) = true := fun hv =>
    Fifo.sinkReady_of_room _ _ _ (by
      have := hret hv
      have : s.fifo.q.length ≤ (Fifo.contents s.fifo).length := by simp [Fifo.contents]
      show _ < c.depth
      omega)
  have hfr : rFValid c s i = true → rResValid c s i = true := fun hf =>
    Fifo.srcValid_of_ne_nil (resCfg c) hd rfl s.res _ (by
      have := List.length_pos_iff.mpr (Fifo.src_head (dataCfg c) hd s.fifo hwf i.rdataValid hf).1
      exact List.length_pos_iff.mp (by omega))
  have lr := congrArg List.length (res_conserve c hd s i hwr hfr)
  simp only [List.length_append, apply_ite List.length, List.length_singleton, List.length_nil] at lr
  have lf := Fifo.step_length (dataCfg c) hd s.fifo hwf i.rdataValid i.rdata (rFReady i)
  rw [Bool.and_eq_left_iff_imp.mpr hroom] at lf
  change (Fifo.contents (rstep c s i).1.fifo).length + (if rResReady c s i then 1 else 0) = _ at lf
  have hret' := Queue.level_step_le hlen hret 0
  exact { room := hroom, reserved := hfr, resLen := by omega, fifoLen := lf, len_le := by omega }

/-- **No overrun** (one step; by induction every reachable state): if the memory only returns words that
were requested (`rdataValid → 1 ≤ n`), the reader is ready for them, and the invariant is re-established. -/
theorem reader_no_overrun (c : Cfg) (s : RState) (n : Nat) (i : RIn) (hd : 1 ≤ c.depth) (hb : c.buffered = false)
    (henv : i.rdataValid = true → 1 ≤ n) (h : RInv c s n) :
    (i.rdataValid = true → (rstep c s i).2.rdataReady = true) ∧
    RInv c (rstep c s i).1 (nNext n (rstep c s i).2 i) := by
  obtain ⟨hn, hcap, hro, hfo⟩ := h
  have hwr : Fifo.WF (resCfg c) s.res := ⟨fun _ => hro, hcap⟩
  have hwf : Fifo.WF (dataCfg c) s.fifo := ⟨fun _ => hfo, by show _ ≤ c.depth; omega⟩
  have hwr' : Fifo.WF (resCfg c) (rstep c s i).1.res := Fifo.wf_step (resCfg c) hd s.res hwr _ _ _
  have hwf' : Fifo.WF (dataCfg c) (rstep c s i).1.fifo := Fifo.wf_step (dataCfg c) hd s.fifo hwf _ _ _
  have er := Fifo.contents_eq_q hwr rfl
  have ef := Fifo.contents_eq_q hwf hb
  have acc := reader_accounting c hd s i hwr hwf (by rw [er, ef]; omega) (fun hv => by have := henv hv; rw [er, ef]; omega)
  have lr := acc.resLen
  have lf := acc.fifoLen
  rw [Fifo.contents_eq_q hwr' rfl, er] at lr
  rw [Fifo.contents_eq_q hwf' hb, ef] at lf
  refine ⟨acc.room, ?_, hwr'.cap, hwr'.out (by simp [resCfg]), hwf'.out (by simp [dataCfg, hb])⟩
  have hR := Queue.level_step_le (Nat.zero_le n) henv 0
  rw [nNext, rstep_accept]
  omega

/-- lift: the invariant holds in every reachable state of the reader, for every input history in which the
memory returns only requested words (`n` tracked alongside) -/
def runR (c : Cfg) : RState → Nat → List RIn → Bool
  | _, _, [] => true
  | s, n, i :: is =>
    let r := rstep c s i
    (!i.rdataValid || r.2.rdataReady) && runR c r.1 (nNext n r.2 i) is

def EnvR (c : Cfg) : RState → Nat → List RIn → Prop
  | _, _, [] => True
  | s, n, i :: is => (i.rdataValid = true → 1 ≤ n) ∧ EnvR c (rstep c s i).1 (nNext n (rstep c s i).2 i) is

theorem reader_never_overruns (c : Cfg) (hd : 1 ≤ c.depth) (hb : c.buffered = false) (is : List RIn) :
    ∀ s n, RInv c s n → EnvR c s n is → runR c s n is = true := by
  induction is with
  | nil => intros; rfl
  | cons i is ih =>
    intro s n hinv henv
    have h := reader_no_overrun c s n i hd hb henv.1 hinv
    simp only [runR, Bool.and_eq_true]
    exact ⟨Lists.not_or_of_imp h.1, ih _ _ h.2 henv.2⟩

/-! `wstep` is one `Fifo.step`; a pair enters it exactly when its command is taken by the port -/
theorem wstep_fifo (c : Cfg) (s : WState) (i : WIn) :
    (wstep c s i).1.fifo = Fifo.step (dataCfg c) s.fifo (i.sinkValid && i.cmdReady) i.sinkData i.wdataReady := rfl
theorem wstep_wdataValid (c : Cfg) (s : WState) (i : WIn) :
    (wstep c s i).2.wdataValid = Fifo.srcValid (dataCfg c) s.fifo (i.sinkValid && i.cmdReady) := rfl
theorem writer_accepts (c : Cfg) (s : WState) (i : WIn) :
    ((wstep c s i).2.cmdValid && i.cmdReady) = (i.sinkValid && i.cmdReady && Fifo.sinkReady (dataCfg c) s.fifo i.wdataReady) :=
  (Bool.and_assoc _ _ _).trans (Bool.and_comm _ _)

/-- **Writer pairing** (depth ≥ 2, unbuffered): the data FIFO grows exactly when a write command is accepted
by the port and shrinks exactly when a write-data word is taken: the k-th command and the k-th data word come
from the same accepted (address, data) pair. -/
theorem writer_pairs (c : Cfg) (s : WState) (i : WIn) (hd : 2 ≤ c.depth) (hb : c.buffered = false) :
    (wstep c s i).1.fifo.q.length =
      s.fifo.q.length + (if (wstep c s i).2.cmdValid && i.cmdReady then 1 else 0)
        - (if (wstep c s i).2.wdataValid && i.wdataReady then 1 else 0) := by
  have := Fifo.step_sync_length (dataCfg c) hd hb s.fifo (i.sinkValid && i.cmdReady) i.sinkData i.wdataReady
  rw [wstep_fifo, writer_accepts, wstep_wdataValid]
  omega

example : RInv ⟨4, false⟩ {} 0 := by simp [RInv]
example : runR ⟨1, false⟩ {} 0 [⟨true, true, 5, false, true, false, 0, false⟩, ⟨true, true, 6, false, true, true, 77, false⟩,
                                 ⟨true, false, 0, false, true, false, 0, true⟩] = true := by decide

end C12
