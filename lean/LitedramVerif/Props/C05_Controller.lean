/-
C05, command path of the composed controller — no row command is starved.

`row_command_accepted`: for every controller configuration with several phases (`WF2` of C02), every reachable state of the
composed controller model and **every** traffic on the bank interfaces (reads and writes arriving on any bank, the multiplexer
switching direction, refreshes coming and going): a PRECHARGE or ACTIVATE that a bank machine offers is accepted by the
multiplexer within `rowMax c` cycles,

    rowMax = ((n − 1)·(tRRD + tFAW + 2) + 2^w(tRRD) + tFAW² + 1) · (muxCap + 1) + muxCap,   muxCap = 2^w(tWTR) + 1 + read_latency

so no bank machine can be locked out of the command bus by the others (round-robin command chooser, tRRD / tFAW gates,
RTW / WTR turn-around states).  Proof: potential `CtlLive.psiR` (Proofs/CtlLiveRow.lean), strictly decreasing until acceptance.
It stands beside C04.refresh_grant_bound (the same for a pending refresh) and the component lemmas of Props/C05.lean.
Not covered: column commands (READ / WRITE), whose service depends on the anti-starvation timers and on the direction the
multiplexer is in (`request_latency_bounded_full` stays unproved; measured against Bound(cfg) by the check), and single-phase
controllers, where row and column commands share one chooser.
-/
import LitedramVerif.Proofs.CtlLiveRow
import LitedramVerif.Props.C02_Controller
namespace C05
open Controller Hw CtlInv CtlLive

theorem row_command_accepted_of (c : Controller.Cfg) (hwf : CtlInv.WF c) (hone : (c.nphases == 1) = false) (b : Nat) (hb : b < c.nbm)
    (pre post : List (Array BankIn)) (hpre : ∀ ins ∈ pre, InsOk c ins) (hpost : ∀ ins ∈ post, InsOk c ins)
    (hv : bmValid (CtlLive.runCtl c (init c) pre).bms[b]! = true) (hlen : rowMax c < post.length) :
    ∃ k, k ≤ rowMax c ∧
      bmReadyOf c (CtlLive.runCtl c (CtlLive.runCtl c (init c) pre) (post.take k)) (post.getD k default) b = true := by
  obtain ⟨g, hci⟩ := cinv_reachable c hwf pre hpre
  have hk := mok_reachable c hwf.nbm pre
  have hle := psiR_le c _ hk b
  obtain ⟨k, hk1, hk2⟩ := row_cmd_accepted_from c hwf hone b hb post _ g hci hk hpost hv (by omega)
  exact ⟨k, by omega, hk2⟩

/-- **C05, command path, every multi-phase configuration, every reachable state, every traffic**: an offered PRECHARGE /
ACTIVATE is accepted within `rowMax c` cycles. -/
theorem row_command_accepted (c : Controller.Cfg) (hwf : WF2 c) (hone : (c.nphases == 1) = false) (b : Nat) (hb : b < c.nbm)
    (pre post : List (Array BankIn)) (hpre : ∀ ins ∈ pre, InsOk c ins) (hpost : ∀ ins ∈ post, InsOk c ins)
    (hv : bmValid (CtlLive.runCtl c (init c) pre).bms[b]! = true) (hlen : rowMax c < post.length) :
    ∃ k, k ≤ rowMax c ∧
      bmReadyOf c (CtlLive.runCtl c (CtlLive.runCtl c (init c) pre) (post.take k)) (post.getD k default) b = true := by
  exact row_command_accepted_of c hwf.base hone b hb pre post hpre hpost hv hlen

/-- non-vacuity: after 8 cycles of `C02.insC` traffic on `C02.cfgC` three bank machines offer an ACTIVATE at once; bank
machine 3 is served after 5 cycles (round-robin order, tRRD between the activates); `rowMax` = 629 -/
example :
    let s8 := CtlLive.runCtl C02.cfgC (init C02.cfgC) ((List.range 8).map C02.insC)
    let post := (List.range 40).map fun j => C02.insC (8 + j)
    bmValid s8.bms[0]! = true ∧ bmValid s8.bms[2]! = true ∧ bmValid s8.bms[3]! = true ∧
    bmReadyOf C02.cfgC (CtlLive.runCtl C02.cfgC s8 (post.take 4)) (post.getD 4 default) 3 = false ∧
    bmReadyOf C02.cfgC (CtlLive.runCtl C02.cfgC s8 (post.take 5)) (post.getD 5 default) 3 = true ∧
    rowMax C02.cfgC = 629 := by decide +kernel

end C05
