/-
C02 — the DRAM command stream obeys the bank state machine.

Layering (DESIGN §6 C02).  The whole-controller statement is `dfi_stream_legal_full` below (the Lean
specification monitor `Dram.Mon.step` never rejects a trace of `Controller.step`).  What is *proved*
here is the bank-machine half against an explicit environment contract (accepted commands reach the
DRAM; the refresher's precharge-all arrives only while this machine is in REFRESH, and the refresh
request is withdrawn only after it) — the part of the controller that owns the open-row belief — plus
the structural facts about the steerer's data-enable strobes.  The monitor itself is evaluated on every
implementation trace by the check.
-/
import LitedramVerif.Model.Controller
import LitedramVerif.Spec.Dram
import LitedramVerif.Proofs.BmStep
namespace C02
open BankMachine

/-- reference bank automaton for one bank: the open row, if any -/
abbrev DramBank := Option Nat

/-- legality in the reference automaton: ACT only on a precharged bank; RD/WR only when the open row
is the row the request at the head of the queue addresses -/
def legal (c : Cfg) (s : State) (d : DramBank) : Cmd → Bool
  | .nop => true
  | .act _ => d.isNone
  | .pre => true
  | .cas _ => d == some (rowFull c s.buf.addr)

def dramStep (d : DramBank) : Cmd → DramBank
  | .nop => d
  | .act r => some r
  | .pre => none
  | .cas ap => if ap then none else d

/-- joint invariant between the machine's belief (`row`, `rowOpened`, FSM state) and the DRAM bank;
`cleared` is a ghost: the refresher's precharge-all has been seen since REFRESH was entered -/
def Inv (c : Cfg) (s : State) (d : DramBank) (cleared : Bool) : Prop :=
  match s.fsm with
  | .regular => (s.rowOpened = true → d = some s.row ∧ s.row < 2 ^ c.rowbits) ∧ (s.rowOpened = false → d = none)
  | .precharge => d = some s.row ∧ s.row < 2 ^ c.rowbits
  | .autoprecharge => d = none
  | .activate => d = none
  | .trp _ => d = none
  | .trcd _ => d = some s.row ∧ s.rowOpened = true ∧ s.row < 2 ^ c.rowbits
  | .refresh => cleared = true → d = none

/-- the request addresses fit the row field (what the crossbar guarantees, C06: `rcaOf_lt`) -/
def AddrOk (c : Cfg) (s : State) : Prop := rowFull c s.buf.addr < 2 ^ c.rowbits

/-- `prea`: the refresher's precharge-all reaches the DRAM in this cycle; the composed controller meets the contract in
Proofs/ControllerInv.lean -/
structure EnvOK (s : State) (i : In) (prea cleared : Bool) : Prop where
  prea_in_refresh : prea = true → s.fsm = .refresh
  withdraw_after_prea : s.fsm = .refresh → i.refresh = false → cleared = true ∨ prea = true

def cleared' (s s' : State) (prea cleared : Bool) : Bool :=
  s'.fsm == .refresh && s.fsm == .refresh && (cleared || prea)

/-- **Bank-machine legality** (one step; lifts to every reachable state by induction on the input
list): under the environment contract every command the machine gets accepted is legal for the DRAM
bank, and the joint invariant is re-established — including across refresh and auto-precharge. -/
theorem bm_step_legal (c : Cfg) (s : State) (d : DramBank) (cl : Bool) (i : In) (prea : Bool)
    (henv : EnvOK s i prea cl) (haddr : AddrOk c s) (hrow : c.abits ≥ c.rowbits) (h : Inv c s d cl) :
    let r := step c s i
    let cmd := cmdOf r.1 r.2 i.ready
    legal c s d cmd = true ∧
    Inv c r.1 (if prea then none else dramStep d cmd) (cleared' s r.1 prea cl) := by
  obtain ⟨prea_in_refresh, withdraw_after_prea⟩ := henv
  have hmod : rowOf c s.buf.addr = rowFull c s.buf.addr := Nat.mod_eq_of_lt haddr
  have hmod2 : rowFull c s.buf.addr % 2 ^ c.abits = rowFull c s.buf.addr :=
    Nat.mod_eq_of_lt (Nat.lt_of_lt_of_le haddr (Nat.pow_le_pow_right (by decide) hrow))
  obtain ⟨f, f', cmd, ro', ef, ef', ecmd, ero, tr⟩ := BmTiming.step_trans c s i
  have hrow' := BmTiming.step_row c s i
  rw [hmod, ef] at hrow'
  unfold AddrOk at haddr
  simp only [Inv, cleared', ef, ef', ecmd, ero] at h prea_in_refresh withdraw_after_prea ⊢
  generalize (step c s i).1.row = row' at hrow' ⊢
  clear ef ef' ecmd ero
  have hp : f ≠ .refresh → prea = false := fun hne => Bool.eq_false_iff.2 (mt prea_in_refresh hne)
  cases tr
  -- REFRESH: the bank is closed once the precharge-all has been seen (`cl`, by `h`) or lands now (`prea`)
  case refDone | refStay => cases prea <;> simp_all [legal, dramStep, BmTiming.guards]
  -- every other transition starts outside REFRESH, where no precharge-all lands
  all_goals obtain rfl := hp nofun
  all_goals simp at hrow'
  all_goals subst hrow'
  -- the ACT finds the bank closed and opens the row the row register is loaded with
  case act | actShort => simp_all [legal, dramStep, BmTiming.guards]
  -- a CAS is only offered with the row open (`d = some s.row`) on a row hit (`s.row = rowFull …`)
  case cas | casAp => simp_all [legal, dramStep, BmTiming.guards]
  all_goals simp_all [legal, dramStep, BmTiming.guards]

def MemOk (c : Cfg) (s : State) : Prop :=
  (∀ e ∈ s.mem, rowFull c e.addr < 2 ^ c.rowbits) ∧ rowFull c s.buf.addr < 2 ^ c.rowbits

theorem memok_init (c : Cfg) : MemOk c (State.init c) := by
  have h0 : rowFull c (State.init c).buf.addr < 2 ^ c.rowbits := by simp [State.init, rowFull]; exact Nat.two_pow_pos _
  refine ⟨fun e he => ?_, h0⟩
  simp only [State.init, Array.mem_replicate] at he
  rw [he.2]; exact h0

theorem memok_step (c : Cfg) (s : State) (i : In) (h : MemOk c s) (hi : rowFull c i.addr < 2 ^ c.rowbits) :
    MemOk c (step c s i).1 := by
  obtain ⟨hm, hb⟩ := h
  have hla : rowFull c (s.mem[s.consume]!).addr < 2 ^ c.rowbits := by
    by_cases hlt : s.consume < s.mem.size
    · rw [getElem!_pos s.mem s.consume hlt]; exact hm _ (Array.getElem_mem hlt)
    · rw [getElem!_neg s.mem s.consume hlt]; exact (memok_init c).2
  have hset : ∀ (k : Nat) (e : Entry), e ∈ s.mem.set! k ⟨i.we, i.addr⟩ → rowFull c e.addr < 2 ^ c.rowbits := by
    intro k e he
    rcases Array.mem_or_eq_of_mem_setIfInBounds he with h1 | h1
    · exact hm e h1
    · rw [h1]; exact hi
  refine ⟨?_, ?_⟩
  · intro e he
    simp only [step] at he
    repeat' split at he
    all_goals first | exact hm e he | exact hset _ e he
  · simp only [step]
    repeat' split
    all_goals first | exact hi | exact hla | exact hb

/-- a trace of one bank machine: per cycle its inputs and whether the refresher's precharge-all lands -/
structure Ev where
  i : In
  prea : Bool

/-- run the machine, the reference bank and the ghost together; `none` = an illegal command was accepted -/
def runLegal (c : Cfg) : State → DramBank → Bool → List Ev → Bool
  | _, _, _, [] => true
  | s, d, cl, e :: es =>
    let r := step c s e.i
    let cmd := cmdOf r.1 r.2 e.i.ready
    legal c s d cmd && runLegal c r.1 (if e.prea then none else dramStep d cmd) (cleared' s r.1 e.prea cl) es

def EnvOKs (c : Cfg) : State → Bool → List Ev → Prop
  | _, _, [] => True
  | s, cl, e :: es =>
    EnvOK s e.i e.prea cl ∧ rowFull c e.i.addr < 2 ^ c.rowbits ∧
    EnvOKs c (step c s e.i).1 (cleared' s (step c s e.i).1 e.prea cl) es

theorem bm_run_legal_from (c : Cfg) (hrow : c.abits ≥ c.rowbits) (es : List Ev) :
    ∀ (s : State) (d : DramBank) (cl : Bool), Inv c s d cl → MemOk c s → EnvOKs c s cl es → runLegal c s d cl es = true := by
  induction es with
  | nil => intros; rfl
  | cons e es ih =>
    intro s d cl hinv hmem henv
    obtain ⟨h1, h2, h3⟩ := henv
    have hstep := bm_step_legal c s d cl e.i e.prea h1 hmem.2 hrow hinv
    simp only [runLegal, Bool.and_eq_true]
    exact ⟨hstep.1, ih _ _ _ hstep.2 (memok_step c s e.i hmem h2) h3⟩

/-- **Every reachable state**: from reset (bank precharged), for every input history that meets the
environment contract, a bank machine never gets an illegal command accepted — ACT only on a precharged
bank, RD/WR only on the open row the request addresses — for every configuration. -/
theorem bm_run_legal (c : Cfg) (hrow : c.abits ≥ c.rowbits) (es : List Ev)
    (henv : EnvOKs c (State.init c) false es) : runLegal c (State.init c) none false es = true :=
  bm_run_legal_from c hrow es _ _ _ (by simp [Inv, State.init]) (memok_init c) henv

/-- the specification monitor's configuration that corresponds to a controller configuration
(distances in DRAM clocks: `cycles·n − (n−1)`) -/
def monCfg (c : Controller.Cfg) : Dram.Cfg :=
  let n := c.nphases
  let clk := fun (cy : Nat) => if cy = 0 then 0 else cy * n - (n - 1)
  { nphases := n, nranks := 2 ^ c.rankbits, nbanks := 2 ^ c.bankbits, rdphase := c.rdphase, wrphase := c.wrphase,
    colbits := c.bm.colbits, align := c.bm.align,
    req := { tRCD := clk c.bm.tRCD, tRP := clk c.bm.tRP, tRAS := clk (c.bm.tRAS.getD 0), tRC := clk (c.bm.tRC.getD 0),
             tRRD := clk (c.tRRD.getD 0), tFAW := clk (c.tFAW.getD 0), tCCD := clk c.tCCD, tWTP := clk c.bm.twtp,
             tWTR := clk c.twtr, tRFC := clk c.rf.tRFC, tZQCS := clk (c.rf.tZQCS.getD 0) } }

def toPhase (p : Controller.Phase) : Dram.Phase :=
  { csN := p.csN, bank := p.bank, address := p.address, casN := p.casN, rasN := p.rasN, weN := p.weN,
    rddataEn := p.rddataEn, wrdataEn := p.wrdataEn }

/-- requests accepted by the bank machines in a cycle (valid & ready), as the monitor wants them -/
def acceptedOf (ins : Array Controller.BankIn) (outs : Array Controller.BankOut) : List (Nat × Dram.Request) :=
  (List.range ins.size).filterMap fun i =>
    if (ins[i]!).valid && (outs[i]!).ready then some (i, { we := (ins[i]!).we, addr := (ins[i]!).addr }) else none

def runMon (c : Controller.Cfg) (inputs : List (Array Controller.BankIn)) : Except String Dram.Mon :=
  (inputs.foldl (fun (acc : Controller.State × Except String Dram.Mon) ins =>
      let r := Controller.step c acc.1 ins
      (r.1, acc.2.bind fun mon => Dram.Mon.step (monCfg c) mon (acceptedOf ins r.2) (acc.1.dfi.map toPhase)))
    (Controller.init c, .ok (Dram.Mon.init (monCfg c)))).2

/-- the full statement for the composed controller (C02 with all distances 0, C03 with the timing table):
**not proved** — the specification monitor accepts every trace of the controller model.  It is the
property the check evaluates on every implementation trace (same `Dram.Mon.step`), and the model is
co-simulated against the implementation; the proved parts are `bm_run_legal` above and C03/C04's lemmas. -/
def dfi_stream_legal_full : Prop :=
  ∀ (c : Controller.Cfg) (inputs : List (Array Controller.BankIn)), ∃ m, runMon c inputs = .ok m

/-! ### non-vacuity: a concrete trace meeting the contract reaches ACT, CAS, PRE and refresh -/
def cfgEx : Cfg := { depth := 4, tRAS := some 3, tRC := some 5, twtp := 4, tRCD := 2, tRP := 2, colbits := 6, rowbits := 11,
                     align := 2, abits := 11, ap := true }
def evs : List Ev :=
  [⟨⟨true, false, 0x35, false, true⟩, false⟩, ⟨⟨true, true, 0x75, false, true⟩, false⟩] ++
  List.replicate 14 ⟨⟨false, false, 0, false, true⟩, false⟩ ++
  List.replicate 3 ⟨⟨false, false, 0, true, true⟩, false⟩ ++ [⟨⟨false, false, 0, true, true⟩, true⟩, ⟨⟨false, false, 0, false, true⟩, false⟩]
example : runLegal cfgEx (State.init cfgEx) none false evs = true := by decide +kernel

end C02
