/-
C03 for the **composed controller** — the top-level timing theorem, in controller cycles.

`controller_timing_ok`: for every controller configuration meeting `WF3` and **every** sequence of bank-machine inputs,
the commands the composed controller model issues (N bank machines + choosers + multiplexer FSM + refresher,
`Model/Controller.lean`) are accepted by the specification monitor `Spec/TimingMon.lean` run with the controller's own
timing settings: tRCD, tRP (after PRE, after PREA, after an auto-precharge: tRP after RD+AP, tWTP+tRP after WR+AP,
tRAS+tRP after the ACT), tRC, tRAS and tWTP before PRE / PREA, tRRD, at most four ACT per tFAW window, tCCD, tWTR
(WR→RD), tRFC after REF, tZQCS after ZQC, tRP between PREA and REF/ZQC.

Distances are in controller cycles between the cycles in which the commands are issued (accepted by the multiplexer /
taken from the refresher); every command reaches the DFI pins exactly one register stage later (the steerer), on the
phase `C02.controller_dfi_legal` describes.  `C03.worst_phase` turns a distance of `c` controller cycles between commands on
arbitrary phases into ≥ c·n − (n−1) DRAM clocks, and C16 (`margin_covers_worst_phase`, `ck_span`) shows that the cycle
counts handed to the controller make this cover the datasheet's ns and ck values.

Hypotheses (`WF3`, configuration only): `WF2` of C02; one tRP for bank machines and refresher; tRP ≥ 1; and
`twtr ≤ tRP + tRFC`: a write followed by a refresh followed by a read by-passes the WTR state of the multiplexer, so the
write-to-read turn-around is then only guaranteed by the duration of the refresh (true of every real configuration:
tRFC is ≥ 60 ns, tWTR 7.5 ns).
Not covered: the composition with the datasheet values themselves is C16's; read-to-precharge (tRTP) is not a rule of the
property and the controller has no such timer.
-/
import LitedramVerif.Proofs.CtlTiming
import LitedramVerif.Props.C02_Controller
namespace C03
open Controller CtlInv CtlTiming TimingMon

def issueTrace (c : Controller.Cfg) : State → List (Array BankIn) → List (List Ev)
  | _, [] => []
  | s, ins :: rest => evsOf c s ins :: issueTrace c (step c s ins).1 rest

theorem timing_run_from (c : Controller.Cfg) (hwf : WF3 c) (inputs : List (Array BankIn)) :
    ∀ (s : State) (g : Ghost) (m : St), CInv c s g → TInv c s g m → (∀ ins ∈ inputs, InsOk c ins) →
      ∃ m', TimingMon.run (reqOf c) m (issueTrace c s inputs) = some m' := by
  induction inputs with
  | nil => intro s g m _ _ _; exact ⟨m, rfl⟩
  | cons ins rest ih =>
    intro s g m hc ht hins
    have hc' := (cinv_step c hwf.wf2.base s g ins (hins ins (by simp)) hc).1
    have hall := all_allowed c hwf s g ins m hc ht
    obtain ⟨ht', hwin⟩ := tinv_step c hwf s g ins m hc ht
    obtain ⟨m', hm'⟩ := ih (step c s ins).1 (gNext c s g ins) _ hc' ht' (fun x hx => hins x (by simp [hx]))
    refine ⟨m', ?_⟩
    have hex := evs_exclusive c hwf.wf2.abits s ins
    simp only [issueTrace, TimingMon.run, TimingMon.step, hall, hex, Bool.and_self, if_true, hwin]
    exact hm'

theorem controller_timing_ok (c : Controller.Cfg) (hwf : WF3 c) (inputs : List (Array BankIn))
    (hins : ∀ ins ∈ inputs, InsOk c ins) :
    ∃ m, TimingMon.run (reqOf c) (St.init (reqOf c)) (issueTrace c (init c) inputs) = some m :=
  timing_run_from c hwf inputs (init c) g0 _ (cinv_init c hwf.wf2.base) (tinv_init c) hins

example : WF3 C02.cfgC := { wf2 := C02.cfgC_wf2, rp := rfl, wtr := by decide, rpPos := by decide }

/-- non-vacuity: commands are issued on this run -/
example : ((issueTrace C02.cfgC (init C02.cfgC) ((List.range 120).map C02.insC)).flatten.length ≥ 40) ∧
    (TimingMon.run (reqOf C02.cfgC) (St.init (reqOf C02.cfgC))
      (issueTrace C02.cfgC (init C02.cfgC) ((List.range 120).map C02.insC))).isSome = true := by
  decide +kernel

/-- the monitor's same-cycle rule: an ACT and a RD of the same bank in ONE controller cycle (distance 0 < tRCD) are rejected even
though each of them is allowed with respect to the earlier cycles; commands of different banks may share a cycle; and every cycle
of the controller passes it (`evs_exclusive`, used in `timing_run_from`) -/
example : (TimingMon.step (reqOf C02.cfgC) (St.init (reqOf C02.cfgC)) [.act 0, .rd 0 false]).isNone = true ∧
    (TimingMon.step (reqOf C02.cfgC) (St.init (reqOf C02.cfgC)) [.act 0, .act 1]).isNone = true ∧
    (TimingMon.step (reqOf C02.cfgC) (St.init (reqOf C02.cfgC)) [.act 0, .rd 1 false]).isSome = true := by
  decide +kernel

end C03
