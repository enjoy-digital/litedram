/-
C16 — cycle counts derived from datasheets are never on the unsafe side.
Time unit: with `T = 1e9/f` ns the controller period and `tCK = T/n` the DRAM clock, a value of `t = num/den` ns equals
`t/tCK = num·f·n / (den·1e9)` DRAM clocks.
-/
import LitedramVerif.Model.Timing
namespace C16
open Timing

/-- everything below is an instance of this -/
theorem ceilDiv_le_iff (a c : Nat) {b : Nat} (hb : 0 < b) : ceilDiv a b ≤ c ↔ a ≤ c * b := by
  unfold ceilDiv
  rw [← Nat.lt_succ_iff, Nat.div_lt_iff_lt_mul hb, Nat.succ_mul]
  omega

theorem nsToCyclesMargin_le_iff (t : Q) (c : Clk) (k : Nat) (hd : 0 < t.den) (hn : 0 < c.n) :
    nsToCyclesMargin t c ≤ k ↔
      t.num * c.f * c.n + (c.n - 1) * (t.den * 10 ^ 9) ≤ k * c.n * (t.den * 10 ^ 9) := by
  unfold nsToCyclesMargin
  rw [ceilDiv_le_iff _ _ (Nat.mul_pos (Nat.mul_pos hd (by decide)) hn),
    Nat.mul_comm (c.n - 1), Nat.mul_assoc k, Nat.mul_comm c.n]

theorem ckToCycles_le_iff (ck : Q) (c : Clk) (k : Nat) (hd : 0 < ck.den) (hn : 0 < c.n) :
    ckToCycles ck c ≤ k ↔ ck.num ≤ k * c.n * ck.den := by
  unfold ckToCycles
  rw [ceilDiv_le_iff _ _ (Nat.mul_pos hd hn), Nat.mul_assoc k, Nat.mul_comm c.n]

/-- **Worst-phase coverage.**  If the controller waits `c = nsToCyclesMargin t` cycles between two
commands, then even when the first sits on the last phase and the second on the first phase of their
controller cycles — `c·n − (n−1)` DRAM clocks apart — the distance still covers `t` nanoseconds:
`(c·n − (n−1)) · tCK ≥ t`, stated in integers as `(c·n − (n−1))·den·1e9 ≥ num·f·n`. -/
theorem margin_covers_worst_phase (t : Q) (c : Clk) (hd : 0 < t.den) (hn : 0 < c.n) :
    t.num * c.f * c.n + (c.n - 1) * (t.den * 10 ^ 9) ≤ nsToCyclesMargin t c * c.n * (t.den * 10 ^ 9) :=
  (nsToCyclesMargin_le_iff t c _ hd hn).mp (Nat.le_refl _)

/-- and for any two phases `p₁ p₂ < n` of the two cycles the distance `c·n + p₂ − p₁` is at least the
worst case above. -/
theorem any_phase_ge_worst (c n p1 p2 : Nat) (h1 : p1 < n) :
    c * n - (n - 1) ≤ c * n + p2 - p1 := by omega

/-- **Clock-count span**: `ck_to_cycles` cycles span at least `ck` DRAM clocks (`cycles·n ≥ ck`). -/
theorem ck_span (ck : Q) (c : Clk) (hd : 0 < ck.den) (hn : 0 < c.n) :
    ck.num ≤ ckToCycles ck c * c.n * ck.den :=
  (ckToCycles_le_iff ck c _ hd hn).mp (Nat.le_refl _)

/-- **Both are honoured**: the value handed to the controller is at least each of the two. -/
theorem min_cycles_ge_both (t : T) (c : Clk) :
    ckToCycles t.ck c ≤ minCycles t c ∧ nsToCyclesMargin t.ns c ≤ minCycles t c :=
  ⟨Nat.le_max_left _ _, Nat.le_max_right _ _⟩

/-- **The refresh interval is not longer than the datasheet's**: `cycles · T ≤ tREFI`, i.e.
`cycles · den · 1e9 ≤ num · f`. -/
theorem refresh_interval_not_longer (t : T) (c : Clk) :
    maxCycles t c * (t.ns.den * 10 ^ 9) ≤ t.ns.num * c.f :=
  Nat.div_mul_le_self _ _

/-- the conversions are the *least* safe values (no cycle is wasted): one cycle less would not cover
the datasheet value on the worst phases. -/
theorem margin_is_tight (t : Q) (c : Clk) (k : Nat)
    (h : t.num * c.f * c.n + (c.n - 1) * (t.den * 10 ^ 9) ≤ k * c.n * (t.den * 10 ^ 9))
    (hd : 0 < t.den) (hn : 0 < c.n) : nsToCyclesMargin t c ≤ k :=
  (nsToCyclesMargin_le_iff t c k hd hn).mpr h

/-- for every field of `settings` built by `optMin` (all minimum-type timings) -/
theorem optMin_safe (r : Raw) (c : Clk) (hn : 0 < c.n) (t : T) (ht : get r = some t)
    (hd1 : 0 < t.ns.den) (hd2 : 0 < t.ck.den) :
    ∃ k, optMin r c = some k ∧ t.ck.num ≤ k * c.n * t.ck.den ∧
      t.ns.num * c.f * c.n + (c.n - 1) * (t.ns.den * 10 ^ 9) ≤ k * c.n * (t.ns.den * 10 ^ 9) :=
  ⟨minCycles t c, by simp [optMin, ht],
    (ckToCycles_le_iff t.ck c _ hd2 hn).mp (min_cycles_ge_both t c).1,
    (nsToCyclesMargin_le_iff t.ns c _ hd1 hn).mp (min_cycles_ge_both t c).2⟩

/-- The composed statement for a whole library entry: every minimum-type field of `settings`
covers its datasheet entry (ns on the worst phases, ck as a span), `tRC` covers `tRP + tRAS`,
and `tREFI` is not longer than the datasheet interval. -/
theorem settings_safe (l : Lib) (c : Clk) (hn : 0 < c.n) :
    (∀ t, get l.tRP = some t → 0 < t.ns.den → 0 < t.ck.den →
        ∃ k, (settings l c).tRP = some k ∧ t.ck.num ≤ k * c.n * t.ck.den ∧
          t.ns.num * c.f * c.n + (c.n - 1) * (t.ns.den * 10 ^ 9) ≤ k * c.n * (t.ns.den * 10 ^ 9)) ∧
    (∀ t, get l.tREFI = some t →
        ∃ k, (settings l c).tREFI = some k ∧ k * (t.ns.den * 10 ^ 9) ≤ t.ns.num * c.f) :=
  ⟨optMin_safe l.tRP c hn, fun t ht => ⟨maxCycles t c, by simp [settings, ht], refresh_interval_not_longer t c⟩⟩

/-! ### non-vacuity: DDR3-1600 tRP = 13.75 ns at 100 MHz, 1:4 → ceil(1.375 + 0.75) = 3 cycles;
tREFI 7812.5 ns at 100 MHz → 781 cycles (7810 ns ≤ 7812.5 ns) -/
example : nsToCyclesMargin ⟨13750, 1000⟩ ⟨100000000, 4⟩ = 3 := by decide
example : maxCycles ⟨Q.zero, ⟨78125, 10⟩⟩ ⟨100000000, 4⟩ = 781 := by decide
example : (3 * 4 - 3) * (1000 * 10 ^ 9) ≥ 13750 * 100000000 * 4 := by decide

end C16
