/-
C01, controller level: the data strobes of the bank interfaces.

`one_strobe_per_cycle`: in every state of the composed controller and for every input, at most one bank machine raises
`wdata_ready` / `rdata_valid` - a strobe means the request chooser accepted that bank machine's RD/WR in this very cycle
(`strobe_is_req`).  This is what makes the crossbar's delayed strobes one-hot and its `Case` on them select exactly the
writing master (`C01.wdata_routed`), and it pairs every strobe with the request `C01.bank_queue_fifo` says is being served.
-/
import LitedramVerif.Proofs.Choosers
namespace C01
open Controller CtlInv CtlTiming

/-- a data strobe of bank machine `i` means: the request chooser accepted this bank machine's RD/WR in this cycle -/
theorem strobe_is_req (c : Controller.Cfg) (s : State) (ins : Array BankIn) (i : Nat) (hi : i < c.nbm)
    (h : ((step c s ins).2[i]!).wdataReady = true ∨ ((step c s ins).2[i]!).rdataValid = true) :
    (combOf c s ins).reqAccept = true ∧ s.grantReq = i := by
  simp only [step_outs c s ins i hi, bm_wdataReady, bm_rdataValid] at h
  have hs := reqJ_shape c s ins i
  obtain ⟨hr, hc⟩ : bmReadyOf c s ins i = true ∧ (reqJ c s ins i).cas = true := by
    rcases h with h | h <;> simp [hs.isWrite, hs.isRead] at h <;> exact ⟨h.2, h.1.1⟩
  rcases (bmReady_iff c s ins i).mp hr with h | ⟨ha, e⟩
  · exact h
  · rw [← e, (cmd_acc c s ins ha).row] at hc; cases hc

/-- **One data strobe per cycle**: in every state and for every input, at most one bank machine raises `wdata_ready` or
`rdata_valid` - so the crossbar's delayed strobes are one-hot and its `Case` on them selects exactly the writing master. -/
theorem one_strobe_per_cycle (c : Controller.Cfg) (hab : 11 ≤ c.bm.abits) (s : State) (ins : Array BankIn) (i j : Nat)
    (hi : i < c.nbm) (hj : j < c.nbm)
    (h1 : ((step c s ins).2[i]!).wdataReady = true ∨ ((step c s ins).2[i]!).rdataValid = true)
    (h2 : ((step c s ins).2[j]!).wdataReady = true ∨ ((step c s ins).2[j]!).rdataValid = true) : i = j := by
  rw [← (strobe_is_req c s ins i hi h1).2, ← (strobe_is_req c s ins j hj h2).2]

end C01
