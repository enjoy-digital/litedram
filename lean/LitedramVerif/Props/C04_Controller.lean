/-
C04 for the **composed controller** — bounded liveness of the refresh handshake ("refresh is never starved").

`refresh_grant_bound`: for every controller configuration with at least one bank machine (single- or multi-phase), every
reachable state of the composed controller model (N bank machines + command choosers + tRRD/tFAW/tCCD/tWTR gates +
READ/WRITE/RTW/WTR/REFRESH FSM + refresher, `Model/Controller.lean`) and **every** sequence of port inputs: once the
refresher requests the bus (`WAIT-BANK-MACHINES`), the multiplexer is in REFRESH — and hands the bus to the refresher —
within `CtlLive.psiMax c` cycles, whatever the ports do.  `psiMax` is an explicit function of the configuration:

    psiMax  = phiMax(A) + muxMax + 2
    phiMax  = 2·2^w(tWTP) + 2^w(tRAS) + 2^w(tRC) + tRAS + 2·A + 2·tRP + tRCD + 4      (BmLive.phiMax: one bank machine)
    A       = omegaGMax + 1        bound on the time a precharge/activate waits for the multiplexer:
              multi-phase   muxMax + (n − 1)·(tRRD + tFAW + 2) + 2^w(tRRD) + tFAW² + 1
              single-phase  muxMax + 2^w(tCCD) + 2^w(tRRD) + tFAW² + 1 + (n − 1) + n·(tRRD + tFAW + 1 + n)
    muxMax  = 2^w(tWTR) + 1 + read_latency

(2^w(t) = range of the timer's counter; n = number of bank machines).  Proof: `CtlLive.psi` is a potential on the states
of the composed model that strictly decreases on every clock edge until REFRESH is entered (`CtlLive.live_step`): per bank
machine `BmLive.phi` (at most one precharge and one activate are still issued, then tRAS / write recovery elapse), whose
fairness hypothesis is discharged by the multiplexer potentials `omegaB` / `omega1` (round-robin distance of the grant,
tRRD/tFAW/tCCD gates, FSM turn-around states).

What this does not cover: the tighter bound `C04.grantBound` that the check compares the *measured* latencies with
(`refresh_grant_bound_full` in Props/C04.lean stays unproved for that constant); the check evaluates `psiMax` for every
co-simulated configuration and reports the measured maximum against both.
-/
import LitedramVerif.Props.C04
import LitedramVerif.Proofs.CtlLive
import LitedramVerif.Props.C02_Controller
namespace C04
open Controller Hw CtlInv CtlLive

theorem runCtl_eq (c : Controller.Cfg) (s : State) (l : List (Array BankIn)) : C04.runCtl c s l = CtlLive.runCtl c s l := rfl

theorem refresh_grant_from (c : Controller.Cfg) (s : State) (hk : MOk c s) (post : List (Array BankIn))
    (hw : s.rf.fsm = .waitBm) (hlen : psi c s (fun _ => 0) ≤ post.length) :
    ∃ k, k ≤ psi c s (fun _ => 0) ∧ (C04.runCtl c s (post.take k)).fsm = .refresh :=
  reach_refresh c post _ _ (linv_zero c _ hk) hw hlen

/-- **C04, composed controller, every configuration, every input sequence**: the refresher is handed the bus within
`psiMax c` cycles of requesting it. -/
theorem refresh_grant_bound (c : Controller.Cfg) (hn : 0 < c.nbm) (pre post : List (Array BankIn))
    (hw : (C04.runCtl c (init c) pre).rf.fsm = .waitBm) (hlen : psiMax c ≤ post.length) :
    ∃ k, k ≤ psiMax c ∧ (C04.runCtl c (C04.runCtl c (init c) pre) (post.take k)).fsm = .refresh := by
  have hk : MOk c (C04.runCtl c (init c) pre) := mok_reachable c hn pre
  have hle := psi_le c _ (fun _ => 0) hk
  obtain ⟨k, hk1, hk2⟩ := refresh_grant_from c _ hk post hw (by omega)
  exact ⟨k, by omega, hk2⟩

def firstWait (c : Controller.Cfg) (ins : Nat → Array BankIn) (n : Nat) : Option Nat :=
  (List.range n).find? fun k => (C04.runCtl c (init c) ((List.range k).map ins)).rf.fsm == .waitBm

/-- non-vacuity: the refresher waits while the multiplexer is turning the bus round (RTW) and bank machines are in tRCD / tRP
chains; REFRESH is entered 6 cycles later -/
example :
    let sW := C04.runCtl C02.cfgC (init C02.cfgC) ((List.range 49).map C02.insC)
    let post := (List.range 200).map fun j => C02.insC (49 + j)
    sW.rf.fsm = .waitBm ∧ sW.fsm = .rtw 0 ∧ (sW.bms[0]!).fsm = .trcd 0 ∧ (sW.bms[2]!).fsm = .trp 0 ∧
    (C04.runCtl C02.cfgC sW (post.take 5)).fsm ≠ .refresh ∧ (C04.runCtl C02.cfgC sW (post.take 6)).fsm = .refresh ∧
    psi C02.cfgC sW (fun _ => 0) = 92 ∧ psiMax C02.cfgC = 199 := by
  decide +kernel

end C04
