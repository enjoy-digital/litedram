/-
C15 — the ECC port corrects any single and flags any double bit error.
The syndrome of a stored word is the XOR of the positions of its flipped bits; `decode_of_syndrome`
gives the decoder's output from that number.
-/
import LitedramVerif.Model.Secded
import LitedramVerif.Proofs.SecdedLemmas
import LitedramVerif.Proofs.NatBits
import LitedramVerif.Proofs.Lists
namespace C15
open Secded

theorem placeData_pow2 (n : Nat) (data : List Bool) (c : Nat) (hc : isPow2 c = true) :
    placeData n data c = false := by
  unfold placeData
  rw [Lists.lookup_zip_not_mem]; · rfl
  rw [mem_dataPos]; simp [hc]

theorem encode_of_ne_zero (n : Nat) (data : List Bool) {c : Nat} (hc : c ≠ 0) :
    encode n data c = withSyndrome n (placeData n data) c := by
  simp [encode, hc]

/-- on `cover n i` `place_syndrome` writes only at `2 ^ i`, over a 0: one toggle, the form `xorAll_map_toggle` takes -/
theorem withSyndrome_of_testBit (n : Nat) (cwD : Word) (h0 : ∀ c, isPow2 c = true → cwD c = false)
    {i c : Nat} (hc : c.testBit i = true) :
    withSyndrome n cwD c = (cwD c != (c == 2 ^ i && synBit n cwD i)) := by
  unfold withSyndrome
  by_cases hp : isPow2 c = true
  · have := pow2_testBit hp hc
    subst this
    simp [hp, h0 _ hp]
  · simp [hp, beq_false_of_ne fun e : c = 2 ^ i => hp (e ▸ isPow2_two_pow i)]

theorem synBit_withSyndrome (n : Nat) (cwD : Word) (h0 : ∀ c, isPow2 c = true → cwD c = false)
    (i : Nat) : synBit n (withSyndrome n cwD) i = false := by
  unfold synBit
  rw [List.map_congr_left fun c hc => withSyndrome_of_testBit n cwD h0 (mem_cover.mp hc).2,
    xorAll_map_toggle _ (cover_nodup n i)]
  by_cases hm : 2 ^ i ∈ cover n i
  · simp [hm, synBit]
  · have hempty : cover n i = [] :=
      List.eq_nil_iff_forall_not_mem.mpr fun c hc => hm (two_pow_mem_cover hc)
    simp [hempty, xorAll]

theorem synBit_encode (n : Nat) (data : List Bool) (i : Nat) : synBit n (encode n data) i = false := by
  have : ∀ c ∈ cover n i, encode n data c = withSyndrome n (placeData n data) c :=
    fun c hc => encode_of_ne_zero n data (by have := mem_cover.mp hc; omega)
  rw [synBit, List.map_congr_left this]
  exact synBit_withSyndrome n _ (placeData_pow2 n data) i

theorem parity_encode (n : Nat) (data : List Bool) :
    xorAll ((0 :: positions n).map (encode n data)) = false := by
  have : ∀ c ∈ positions n, encode n data c = withSyndrome n (placeData n data) c :=
    fun c hc => encode_of_ne_zero n data (by have := mem_positions.mp hc; omega)
  rw [List.map_cons, xorAll_cons, List.map_congr_left this]
  simp [encode]

theorem data_of_encode (n : Nat) (data : List Bool) (h : data.length ≤ (dataPos n).length) :
    ((dataPos n).map (encode n data)).take data.length = data := by
  refine Lists.lookup_zip_map _ (dataPos_nodup n) data h _ fun c hc => ?_
  obtain ⟨⟨h1, _⟩, hp⟩ := mem_dataPos.mp hc
  simp [encode_of_ne_zero n data (by omega : c ≠ 0), withSyndrome, hp, placeData]

theorem synBit_flip (n q : Nat) (hq : q ≤ n) (w : Word) (i : Nat) :
    synBit n (flipBit q w) i = (synBit n w i != q.testBit i) := by
  unfold synBit
  rw [xorAll_map_flipBit _ (cover_nodup n i)]
  -- `q = 0` is in no `cover` and has no bit set
  by_cases hb : q.testBit i = true
  · have : 1 ≤ q := Nat.pos_of_ne_zero fun h0 => by simp [h0] at hb
    simp [mem_cover, hq, this]
  · simp [mem_cover, hb]

theorem parity_flip (n q : Nat) (w : Word) (hq : q ≤ n) :
    xorAll ((0 :: positions n).map (flipBit q w)) = !xorAll ((0 :: positions n).map w) := by
  rw [xorAll_map_flipBit _ (zero_cons_positions_nodup n)]
  have hm : q ∈ 0 :: positions n := by
    rw [List.mem_cons, mem_positions]; omega
  simp [hm]

/-- `Case(syndrome)`: when the syndrome value is `q`, exactly position `q` is corrected -/
theorem synIs_eq (n q : Nat) (en : Bool) (w : Word) (hq : q < 2 ^ nsyn n)
    (hs : ∀ i, decSyn n en w i = q.testBit i) (c : Nat) (hc : c ≤ n) :
    synIs n en w c = (c == q) := by
  rw [Bool.eq_iff_iff]
  simp only [synIs, hs, List.all_eq_true, List.mem_range, beq_iff_eq]
  refine ⟨fun hall => Nat.eq_of_testBit_eq fun i => ?_, fun e _ _ => e ▸ rfl⟩
  by_cases hi : i < nsyn n
  · exact (hall i hi).symm
  · have hle : 2 ^ nsyn n ≤ 2 ^ i := Nat.pow_le_pow_right (by decide) (Nat.le_of_not_lt hi)
    rw [Nat.testBit_lt_two_pow (Nat.lt_of_lt_of_le (lt_two_pow_nsyn hc) hle),
        Nat.testBit_lt_two_pow (Nat.lt_of_lt_of_le hq hle)]

theorem synNonzero_eq (n q : Nat) (en : Bool) (w : Word) (hq : q < 2 ^ nsyn n)
    (hs : ∀ i, decSyn n en w i = q.testBit i) :
    synNonzero n en w = decide (q ≠ 0) := by
  rw [Bool.eq_iff_iff]
  simp only [synNonzero, hs, List.any_eq_true, List.mem_range, decide_eq_true_eq]
  exact ⟨fun ⟨i, _, hi⟩ h0 => by simp [h0] at hi,
    fun h => ⟨q.log2, (Nat.log2_lt h).mpr hq, Nat.testBit_log2 h⟩⟩

/-- the three properties below are this with `q = 0`, `p`, `q ^^^ p` -/
theorem decode_of_syndrome (n k q : Nat) (en : Bool) (w : Word) (hq : q < 2 ^ nsyn n)
    (hs : ∀ i, decSyn n en w i = q.testBit i) :
    decode n k en w =
      { data := ((dataPos n).map (flipBit q w)).take k
        sec := decide (q ≠ 0) && xorAll ((0 :: positions n).map w)
        ded := decide (q ≠ 0) && !xorAll ((0 :: positions n).map w) } := by
  have hcorr : ∀ c ∈ dataPos n, corrected n en w c = flipBit q w c := fun c hc => by
    simp [corrected, flipBit, synIs_eq n q en w hq hs c (mem_dataPos.mp hc).1.2]
  simp only [decode, synNonzero_eq n q en w hq hs, List.map_congr_left hcorr]

/-- **Round trip**: data written through the ECC lane and read back is returned unchanged and no
event is flagged (whatever `enable` is). Holds for every code length `n` and every data word that
fits the data positions. -/
theorem decode_encode (n : Nat) (data : List Bool) (h : data.length ≤ (dataPos n).length) (en : Bool) :
    decode n data.length en (encode n data) = { data := data, sec := false, ded := false } := by
  have hs : ∀ i, decSyn n en (encode n data) i = (0 : Nat).testBit i := fun i => by
    simp [decSyn, synBit_encode]
  have h0 : ∀ c ∈ dataPos n, flipBit 0 (encode n data) c = encode n data c := fun c hc =>
    flipBit_of_ne (by have := mem_dataPos.mp hc; omega) _
  rw [decode_of_syndrome n _ 0 en _ (Nat.two_pow_pos _) hs, List.map_congr_left h0,
    data_of_encode n data h]
  simp

/-- **Single error**: flipping any one of the n+1 stored bits (position `p`, 0 = the overall parity
bit) still returns the original data, is never reported as uncorrectable, and is reported as a
corrected error exactly when the flipped bit is not the overall parity bit. -/
theorem single_flip_corrected (n : Nat) (data : List Bool) (h : data.length ≤ (dataPos n).length)
    (p : Nat) (hp : p ≤ n) :
    decode n data.length true (flipBit p (encode n data)) =
      { data := data, sec := decide (p ≠ 0), ded := false } := by
  have hs : ∀ i, decSyn n true (flipBit p (encode n data)) i = p.testBit i := fun i => by
    simp [decSyn, synBit_flip n p hp, synBit_encode]
  rw [decode_of_syndrome n _ p true _ (lt_two_pow_nsyn hp) hs, flipBit_flipBit,
    data_of_encode n data h, parity_flip n p _ hp, parity_encode]
  simp

/-- **Double error**: flipping any two distinct stored bits is reported as uncorrectable and never as
clean or as corrected. -/
theorem double_flip_detected (n : Nat) (data : List Bool) (k : Nat)
    (p q : Nat) (hp : p ≤ n) (hq : q ≤ n) (hpq : p ≠ q) :
    (decode n k true (flipBit p (flipBit q (encode n data)))).ded = true ∧
    (decode n k true (flipBit p (flipBit q (encode n data)))).sec = false := by
  have hs : ∀ i, decSyn n true (flipBit p (flipBit q (encode n data))) i = (q ^^^ p).testBit i :=
    fun i => by simp [decSyn, synBit_flip n p hp, synBit_flip n q hq, synBit_encode]
  have hlt : q ^^^ p < 2 ^ nsyn n := Nat.xor_lt_two_pow (lt_two_pow_nsyn hq) (lt_two_pow_nsyn hp)
  rw [decode_of_syndrome n _ (q ^^^ p) true _ hlt hs, parity_flip n p _ hp, parity_flip n q _ hq,
    parity_encode]
  simp [mt NatBits.xor_eq_zero_iff.mp (Ne.symm hpq)]

/-- `compute_m_n`: of the positions `1..n`, `n = m + k < 2 ^ m`, at most `m` are powers of two -/
theorem computeN_has_room (k : Nat) : k ≤ (dataPos (computeN k)).length := by
  have := le_length_dataPos (computeN_lt k)
  unfold computeN at *
  omega

/-- The code lengths produced by `compute_m_n` have room for the data, for every lane width up to
128 bits (the widths in use are 8..64). -/
theorem compute_m_n_has_room : ∀ k ∈ List.range 129, k ≤ (dataPos (computeN k)).length :=
  fun k _ => computeN_has_room k

example : (dataPos (computeN 8)).length = 8 ∧ computeN 8 = 12 := by decide +kernel
example : decode 12 8 true (flipBit 5 (encode 12 [true,false,true,false,false,true,false,true])) =
    { data := [true,false,true,false,false,true,false,true], sec := true, ded := false } := by decide
example : (decode 12 8 true (flipBit 5 (flipBit 12 (encode 12 [true,false,true,false,false,true,false,true])))).ded = true := by
  decide

end C15
