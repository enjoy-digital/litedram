/-
C06 — port addresses map one-to-one onto DRAM locations.
A port address is the row-column address with the bank field inserted at bit `cbaShift`
(`NatBits.insertMid`); the model takes the field out again (`bankOf`) and closes the gap (`rcaOf`,
`NatBits.dropMid`). The two inverse laws `addrOf_locOf`, `locOf_addrOf` carry the rest.
-/
import LitedramVerif.Model.AddrMap
import LitedramVerif.Proofs.NatBits
import LitedramVerif.Generated.ModuleLib
namespace C06
open AddrMap NatBits

/-- Geometries the generator accepts and the property quantifies over.
* `align ≤ colbits` (burst fits in a row), `1 ≤ rowbits`
* the bank field lies inside the address (`bank_byte_alignment` not beyond the device)
* when `colbits > 10` the column address needs `colbits+1` address lines (A10 skipped) and
  `cmd.a` has `max(rowbits, colbits)` lines: `colbits < rowbits` (checked for every module of
  the library in `Props/C16`'s generated table) and `align ≤ 10`. -/
structure WF (g : Geom) : Prop where
  align_le  : g.align ≤ g.colbits
  row_pos   : 1 ≤ g.rowbits
  cba_le    : g.cbaShift ≤ g.rowbits + g.split
  wide_col  : 10 < g.colbits → g.colbits < g.rowbits
  align_le10 : 10 < g.colbits → g.align ≤ 10

/-- A DRAM burst location. `colidx` is the burst index inside the row (`< 2^split`). -/
structure Loc where
  rank : Nat
  bank : Nat
  row  : Nat
  colidx : Nat
deriving DecidableEq, Repr

def Loc.InRange (g : Geom) (l : Loc) : Prop :=
  l.rank < 2 ^ g.rankbits ∧ l.bank < 2 ^ g.bankbits ∧ l.row < 2 ^ g.rowbits ∧ l.colidx < 2 ^ g.split

/-- Specification side: how a burst index is presented on the column address lines
(JEDEC: column bits on A0..A9, A11.., A10 = auto-precharge flag; low `align` bits zero). -/
def encodeCol (g : Geom) (ci : Nat) : Nat :=
  if 10 < g.colbits then (ci % 2 ^ (10 - g.align)) * 2 ^ g.align + (ci / 2 ^ (10 - g.align)) * 2 ^ 11
  else ci * 2 ^ g.align

/-- Specification side: the address at which location `l` lives (`ROW_BANK_COL` with bank shift). -/
def addrOf (g : Geom) (l : Loc) : Nat :=
  let rca := l.colidx + 2 ^ g.split * l.row
  let ba  := l.bank + 2 ^ g.bankbits * l.rank
  rca % 2 ^ g.cbaShift + 2 ^ g.cbaShift * (ba + 2 ^ g.bankBits * (rca / 2 ^ g.cbaShift))

/-- Location reached by port address `a`, read off the model's DFI-level outputs. -/
def locOf (g : Geom) (a : Nat) : Loc :=
  let t := translate g a
  { rank := t.1, bank := t.2.1, row := t.2.2.1, colidx := rcaOf g a % 2 ^ g.split }

theorem rcaBits_eq (g : Geom) (h : WF g) : g.rcaBits = g.rowbits + g.split + g.rankbits := by
  rw [Geom.rcaBits, Geom.split, Nat.add_right_comm, Nat.add_sub_assoc h.align_le, Nat.add_right_comm]

theorem portBits_eq (g : Geom) (h : WF g) : g.portBits = g.rowbits + g.split + g.bankBits := by
  rw [Geom.portBits, rcaBits_eq g h, Nat.add_right_comm, Nat.add_sub_cancel]

theorem portSize_eq (g : Geom) (h : WF g) :
    2 ^ g.portBits = 2 ^ g.cbaShift * (2 ^ g.bankBits * 2 ^ (g.rowbits + g.split - g.cbaShift)) := by
  rw [Nat.mul_left_comm, two_pow_mul (Nat.add_sub_cancel' h.cba_le), portBits_eq g h, Nat.pow_add,
    Nat.mul_comm]

theorem rcSize_eq (g : Geom) (h : WF g) :
    2 ^ (g.rowbits + g.split) = 2 ^ g.cbaShift * 2 ^ (g.rowbits + g.split - g.cbaShift) :=
  (two_pow_mul (Nat.add_sub_cancel' h.cba_le)).symm

theorem bankOf_eq (g : Geom) (a : Nat) : bankOf g a = a / 2 ^ g.cbaShift % 2 ^ g.bankBits := by
  rw [bankOf, Nat.shiftRight_eq_div_pow]

/-- All three cases of `get_row_column_address` delete the bank field. -/
theorem rcaOf_eq_mod (g : Geom) (a : Nat) :
    rcaOf g a = dropMid (2 ^ g.cbaShift) (2 ^ g.bankBits) a % 2 ^ g.rcaBits := by
  unfold rcaOf dropMid
  simp only [Nat.shiftRight_eq_div_pow, Nat.shiftLeft_eq, Nat.pow_add, ← Nat.div_div_eq_div_mul]
  split
  · split
    · rw [Nat.mul_comm]
    · next h0 =>
      rw [Decidable.of_not_not h0]
      simp only [Nat.pow_zero, Nat.mod_one, Nat.div_one, Nat.zero_add, Nat.one_mul]
  · next hc =>
    -- `2 ^ rcaBits ∣ 2 ^ cbaShift`: the part above the bank field is cut off
    rw [← two_pow_mul (Nat.add_sub_cancel' (Nat.le_of_not_lt hc)), Nat.mul_assoc,
      Nat.add_mul_mod_self_left]

theorem dropMid_port_lt (g : Geom) (h : WF g) (a : Nat) (ha : a < 2 ^ g.portBits) :
    dropMid (2 ^ g.cbaShift) (2 ^ g.bankBits) a < 2 ^ (g.rowbits + g.split) := by
  rw [rcSize_eq g h]; exact dropMid_lt (Nat.two_pow_pos _) (portSize_eq g h ▸ ha)

theorem rcaOf_eq (g : Geom) (h : WF g) (a : Nat) (ha : a < 2 ^ g.portBits) :
    rcaOf g a = dropMid (2 ^ g.cbaShift) (2 ^ g.bankBits) a := by
  rw [rcaOf_eq_mod]
  refine Nat.mod_eq_of_lt (Nat.lt_of_lt_of_le (dropMid_port_lt g h a ha) ?_)
  rw [rcaBits_eq g h]
  exact Nat.pow_le_pow_right (by decide) (Nat.le_add_right _ _)

theorem rcaOf_lt (g : Geom) (h : WF g) (a : Nat) (ha : a < 2 ^ g.portBits) :
    rcaOf g a < 2 ^ (g.rowbits + g.split) := by
  rw [rcaOf_eq g h a ha]; exact dropMid_port_lt g h a ha

theorem locOf_eq (g : Geom) (a : Nat) :
    locOf g a = ⟨bankOf g a / 2 ^ g.bankbits, bankOf g a % 2 ^ g.bankbits,
      rcaOf g a / 2 ^ g.split % 2 ^ g.rowbits, rcaOf g a % 2 ^ g.split⟩ := by
  simp only [locOf, translate, rankOf, dfiBank, rowOf, Nat.shiftRight_eq_div_pow]

theorem addrOf_eq (g : Geom) (l : Loc) :
    addrOf g l = insertMid (2 ^ g.cbaShift) (2 ^ g.bankBits)
      (l.colidx + 2 ^ g.split * l.row) (l.bank + 2 ^ g.bankbits * l.rank) := rfl

theorem addrOf_locOf (g : Geom) (h : WF g) (a : Nat) (ha : a < 2 ^ g.portBits) :
    addrOf g (locOf g a) = a := by
  have hrow : rcaOf g a / 2 ^ g.split % 2 ^ g.rowbits = rcaOf g a / 2 ^ g.split :=
    Nat.mod_eq_of_lt (Nat.div_lt_of_lt_mul
      (by rw [two_pow_mul (Nat.add_comm _ _)]; exact rcaOf_lt g h a ha))
  simp only [addrOf_eq, locOf_eq, hrow, Nat.mod_add_div]
  rw [rcaOf_eq g h a ha, bankOf_eq]
  exact insertMid_dropMid (Nat.two_pow_pos _)

theorem locOf_inRange (g : Geom) (a : Nat) :
    (locOf g a).InRange g := by
  rw [locOf_eq]
  refine ⟨Nat.div_lt_of_lt_mul ?_, Nat.mod_lt _ (Nat.two_pow_pos _), Nat.mod_lt _ (Nat.two_pow_pos _),
    Nat.mod_lt _ (Nat.two_pow_pos _)⟩
  rw [two_pow_mul rfl]
  exact Nat.mod_lt _ (Nat.two_pow_pos _)

theorem locOf_addrOf (g : Geom) (h : WF g) (l : Loc) (hl : l.InRange g) :
    addrOf g l < 2 ^ g.portBits ∧ locOf g (addrOf g l) = l := by
  obtain ⟨hrank, hbank, hrow, hcol⟩ := hl
  have hC := Nat.two_pow_pos g.cbaShift
  have hrca : l.colidx + 2 ^ g.split * l.row
      < 2 ^ g.cbaShift * 2 ^ (g.rowbits + g.split - g.cbaShift) := by
    rw [← rcSize_eq g h, ← two_pow_mul (Nat.add_comm _ _)]; exact join_lt hcol hrow
  have hba : l.bank + 2 ^ g.bankbits * l.rank < 2 ^ g.bankBits := by
    rw [Geom.bankBits, Nat.pow_add]; exact join_lt hbank hrank
  have hlt : addrOf g l < 2 ^ g.portBits := by
    rw [portSize_eq g h]; exact insertMid_lt hC hba hrca
  refine ⟨hlt, ?_⟩
  have hbk : bankOf g (addrOf g l) = l.bank + 2 ^ g.bankbits * l.rank := by
    rw [bankOf_eq]; exact insertMid_digit hC hba
  have hrc : rcaOf g (addrOf g l) = l.colidx + 2 ^ g.split * l.row := by
    rw [rcaOf_eq g h _ hlt]; exact dropMid_insertMid hC hba
  rw [locOf_eq, hbk, hrc, join_div _ hbank, join_mod _ hbank, join_div _ hcol, join_mod _ hcol,
    Nat.mod_eq_of_lt hrow]

/-- **Injective**: two different in-range addresses never reach the same DRAM burst. -/
theorem addr_map_injective (g : Geom) (h : WF g) (a b : Nat)
    (ha : a < 2 ^ g.portBits) (hb : b < 2 ^ g.portBits) (hab : locOf g a = locOf g b) : a = b := by
  rw [← addrOf_locOf g h a ha, ← addrOf_locOf g h b hb, hab]

/-- **Onto** the device: every (rank, bank, row, burst) is reached by some in-range address. -/
theorem addr_map_surjective (g : Geom) (h : WF g) (l : Loc) (hl : l.InRange g) :
    ∃ a, a < 2 ^ g.portBits ∧ locOf g a = l :=
  ⟨addrOf g l, locOf_addrOf g h l hl⟩

/-- decoding the column address lines back to a burst index (JEDEC reading of the lines) -/
def decodeCol (g : Geom) (col : Nat) : Nat :=
  if 10 < g.colbits then (col % 2 ^ 11) / 2 ^ g.align + 2 ^ (10 - g.align) * (col / 2 ^ 11)
  else col / 2 ^ g.align

theorem ten_sub_align_le_split {g : Geom} (hc : 10 < g.colbits) : 10 - g.align ≤ g.split :=
  Nat.sub_le_sub_right (Nat.le_of_lt hc) _

theorem encodeCol_wide (g : Geom) (hc : 10 < g.colbits) (ci : Nat) :
    encodeCol g ci = ci % 2 ^ (10 - g.align) * 2 ^ g.align + 2 ^ 11 * (ci / 2 ^ (10 - g.align)) := by
  rw [encodeCol, if_pos hc, Nat.mul_comm (2 ^ 11)]

theorem encodeCol_lt (g : Geom) (h : WF g) (ci : Nat) (hci : ci < 2 ^ g.split) :
    encodeCol g ci < if 10 < g.colbits then 2 ^ (g.colbits + 1) else 2 ^ g.colbits := by
  have hs : g.split + g.align = g.colbits := Nat.sub_add_cancel h.align_le
  split
  · next hc =>
    have hal := h.align_le10 hc
    have hw : 11 + (g.split - (10 - g.align)) = g.colbits + 1 := by
      rw [Geom.split]; omega
    rw [encodeCol_wide g hc, ← two_pow_mul hw]
    refine join_lt (Nat.lt_trans (low_field_lt hal ci) (by decide)) (Nat.div_lt_of_lt_mul ?_)
    rwa [two_pow_mul (Nat.add_sub_cancel' (ten_sub_align_le_split hc))]
  · next hc =>
    rw [encodeCol, if_neg hc, ← two_pow_mul hs]
    exact Nat.mul_lt_mul_of_pos_right hci (Nat.two_pow_pos _)

theorem colOf_eq_mod (g : Geom) (rca : Nat) :
    colOf g rca = encodeCol g (rca % 2 ^ g.split) % 2 ^ g.addressbits := by
  unfold colOf encodeCol
  simp only [Nat.shiftLeft_eq, Nat.shiftRight_eq_div_pow]
  split
  · next hc =>
    have hk := ten_sub_align_le_split hc
    -- bits `10 - align` and up of `rca % 2 ^ split` are bits `[10 - align, split)` of `rca`
    rw [Nat.mod_mod_of_dvd _ (Nat.pow_dvd_pow 2 hk)]
    conv => rhs; rw [← two_pow_mul (Nat.add_sub_cancel' hk), Nat.mod_mul_right_div_self]
  · rfl

theorem colOf_eq (g : Geom) (h : WF g) (rca : Nat) :
    colOf g rca = encodeCol g (rca % 2 ^ g.split) := by
  rw [colOf_eq_mod]
  refine Nat.mod_eq_of_lt (Nat.lt_of_lt_of_le
    (encodeCol_lt g h _ (Nat.mod_lt _ (Nat.two_pow_pos _))) ?_)
  split
  · next hc =>
    exact Nat.pow_le_pow_right (by decide) (Nat.le_trans (h.wide_col hc) (Nat.le_max_left _ _))
  · exact Nat.pow_le_pow_right (by decide) (Nat.le_max_right _ _)

theorem decode_encodeCol (g : Geom) (h : WF g) (ci : Nat) : decodeCol g (encodeCol g ci) = ci := by
  unfold decodeCol
  split
  · next hc =>
    have hlo : ci % 2 ^ (10 - g.align) * 2 ^ g.align < 2 ^ 11 :=
      Nat.lt_trans (low_field_lt (h.align_le10 hc) ci) (by decide)
    rw [encodeCol_wide g hc, join_mod _ hlo, join_div _ hlo, Nat.mul_div_cancel _ (Nat.two_pow_pos _),
      Nat.mod_add_div]
  · next hc => rw [encodeCol, if_neg hc, Nat.mul_div_cancel _ (Nat.two_pow_pos _)]

/-- **A10 is never a column bit**: bit 10 of every emitted column address is 0
(the auto-precharge flag is OR-ed in separately by the bank machine). -/
theorem a10_never_column (g : Geom) (h : WF g) (rca : Nat) : colOf g rca / 2 ^ 10 % 2 = 0 := by
  rw [colOf_eq g h]
  by_cases hc : 10 < g.colbits
  · rw [encodeCol_wide g hc, show (2 : Nat) ^ 11 = 2 ^ 10 * 2 from rfl, Nat.mul_assoc,
      join_div _ (low_field_lt (h.align_le10 hc) _), Nat.mul_mod_right]
  · have hlt := encodeCol_lt g h _ (Nat.mod_lt rca (Nat.two_pow_pos g.split))
    rw [if_neg hc] at hlt
    rw [Nat.div_eq_of_lt (Nat.lt_of_lt_of_le hlt
      (Nat.pow_le_pow_right (by decide) (Nat.le_of_not_lt hc)))]

theorem translate_eq (g : Geom) (h : WF g) (a : Nat) :
    translate g a =
      ((locOf g a).rank, (locOf g a).bank, (locOf g a).row, encodeCol g (locOf g a).colidx) := by
  rw [translate, colOf_eq g h]; rfl

theorem locOf_eq_translate (g : Geom) (h : WF g) (a : Nat) :
    locOf g a = ⟨(translate g a).1, (translate g a).2.1, (translate g a).2.2.1,
      decodeCol g (translate g a).2.2.2⟩ := by
  rw [translate_eq g h, decode_encodeCol g h]

/-- The DFI-visible tuple (rank, bank, row on ACT, column address on RD/WR) already separates
addresses: injectivity as observable on the bus. -/
theorem dfi_translation_injective (g : Geom) (h : WF g) (a b : Nat)
    (ha : a < 2 ^ g.portBits) (hb : b < 2 ^ g.portBits) (hab : translate g a = translate g b) : a = b := by
  apply addr_map_injective g h a b ha hb
  rw [locOf_eq_translate g h a, locOf_eq_translate g h b, hab]

theorem translate_addrOf (g : Geom) (h : WF g) (l : Loc) (hl : l.InRange g) :
    translate g (addrOf g l) = (l.rank, l.bank, l.row, encodeCol g l.colidx) := by
  rw [translate_eq g h, (locOf_addrOf g h l hl).2]

/-- **The row opened by the activate is the row part of the address** and the column/bank/rank
are its other parts: reading `addrOf` backwards. -/
theorem act_row_is_row_part (g : Geom) (h : WF g) (l : Loc) (hl : l.InRange g) :
    rowOf g (rcaOf g (addrOf g l)) = l.row ∧
    colOf g (rcaOf g (addrOf g l)) = encodeCol g l.colidx := by
  have := translate_addrOf g h l hl
  simp only [translate, Prod.mk.injEq] at this
  exact this.2.2

/-- **Consecutive addresses walk columns, then banks, then rows** (with the configured bank
alignment `cbaShift`): the successor of an address either advances inside the low `cbaShift`
bits (same bank, same upper part), or wraps them and advances the bank, or wraps both and
advances the part above the bank field. -/
theorem consecutive_walk (g : Geom) (a : Nat) :
    let lo  := a % 2 ^ g.cbaShift
    let ba  := a / 2 ^ g.cbaShift % 2 ^ g.bankBits
    let hi  := a / 2 ^ g.cbaShift / 2 ^ g.bankBits
    let lo' := (a+1) % 2 ^ g.cbaShift
    let ba' := (a+1) / 2 ^ g.cbaShift % 2 ^ g.bankBits
    let hi' := (a+1) / 2 ^ g.cbaShift / 2 ^ g.bankBits
    (lo + 1 < 2 ^ g.cbaShift → lo' = lo + 1 ∧ ba' = ba ∧ hi' = hi) ∧
    (lo + 1 = 2 ^ g.cbaShift → ba + 1 < 2 ^ g.bankBits → lo' = 0 ∧ ba' = ba + 1 ∧ hi' = hi) ∧
    (lo + 1 = 2 ^ g.cbaShift → ba + 1 = 2 ^ g.bankBits → lo' = 0 ∧ ba' = 0 ∧ hi' = hi + 1) := by
  intro lo ba hi lo' ba' hi'
  simp only [lo', ba', hi']
  refine ⟨fun h => ?_, fun h h2 => ?_, fun h h2 => ?_⟩
  · obtain ⟨e1, e2⟩ := succ_no_carry h
    rw [e1, e2]; exact ⟨rfl, rfl, rfl⟩
  · obtain ⟨e1, e2⟩ := succ_carry h
    obtain ⟨e3, e4⟩ := succ_no_carry h2
    rw [e1, e2, e3, e4]; exact ⟨rfl, rfl, rfl⟩
  · obtain ⟨e1, e2⟩ := succ_carry h
    obtain ⟨e3, e4⟩ := succ_carry h2
    rw [e1, e2, e3, e4]; exact ⟨rfl, rfl, rfl⟩

/-- **One port word is one DRAM burst**: with the `address_align` the controller derives from the memory type and the
number of phases, consecutive port addresses are exactly one burst of columns apart (2^align = burst length, SDR: the
number of phases), for every memory type and every phase count the PHYs use - so bursts neither overlap nor leave gaps. -/
theorem align_is_burst (memtype nphases : Nat) (hp : nphases = 1 ∨ nphases = 2 ∨ nphases = 4 ∨ nphases = 8) :
    2 ^ alignOf memtype nphases = burstLengthCode memtype nphases := by
  unfold alignOf burstLengthCode
  split
  · rcases hp with h | h | h | h <;> subst h <;> decide  -- SDR: the only row that depends on `nphases`
  all_goals decide

/-- Every module of the library (table regenerated from `litedram/modules.py` on every run) has
power-of-two dimensions and meets the `wide_col` clause of `WF`: a device with more than 1024
columns has more rows than columns, so `cmd.a` has the extra address line the A10 skip needs. -/
theorem library_geometries_wf :
    ∀ m ∈ Generated.moduleLib,
      m.nbanks = 2 ^ m.nbanks.log2 ∧ m.nrows = 2 ^ m.nrows.log2 ∧ m.ncols = 2 ^ m.ncols.log2 ∧
      (10 < m.ncols.log2 → m.ncols.log2 < m.nrows.log2) ∧ 8 ≤ m.ncols.log2 ∧ 1 ≤ m.nbanks.log2 := by
  decide +kernel

/-- MT41K128M16-like: 8 banks, 14 row bits, 10 column bits, BL8 -/
def gDDR3 : Geom := { bankbits := 3, rowbits := 14, colbits := 10, align := 3, rankbits := 0, bba := 0 }
/-- MT46H128M16-like with wide columns (A10 skipped), two ranks, bank alignment above the columns -/
def gWide : Geom := { bankbits := 2, rowbits := 14, colbits := 11, align := 2, rankbits := 1, bba := 12 }

example : WF gDDR3 := by constructor <;> decide
example : WF gWide := by constructor <;> decide
example : translate gDDR3 0x12345 = (0, 6, 0x48, 0x228) := by decide
example : translate gWide 0x5FFFF = (1, 3, 95, 0xBFC) := by decide
example : locOf gWide (addrOf gWide ⟨1, 3, 77, 300⟩) = ⟨1, 3, 77, 300⟩ := by decide

end C06
