/-
C18 — DFI plumbing is transparent: injector mux and rate converter.
-/
import LitedramVerif.Model.Injector
import LitedramVerif.Model.RateConv
import LitedramVerif.Spec.RateSpec
namespace C18

section injector
open Injector

/-- **Hardware mode is transparent** (no clam shell): whatever the CSRs hold, for every value on every signal
the PHY side sees exactly the controller's signals in the same cycle, and the PHY's read data goes back
unchanged. -/
theorem injector_hw_transparent (c : Cfg) (q : Csr) (slave ext : M2S) (rd : S2M)
    (hsel : q.sel = true) (hc : c.clamShell = false) :
    mux c q false slave ext rd = (slave, rd, {}) := by
  simp [mux, hsel, hc]

/-- with clam shell the only difference is that the chip selects are replicated for the two halves -/
theorem injector_hw_transparent_clam (c : Cfg) (q : Csr) (slave ext : M2S) (rd : S2M)
    (hsel : q.sel = true) (hc : c.clamShell = true) :
    (mux c q false slave ext rd).1 =
      { slave with csN := slave.csN % 2 ^ c.nranks + (slave.csN % 2 ^ c.nranks) * 2 ^ c.nranks } ∧
    (mux c q false slave ext rd).2.1 = rd := by
  simp [mux, hsel, hc]

/-- **Software mode isolates the controller**: the PHY side does not depend on anything the controller or the
external interface drives, and the controller gets no read data. -/
theorem injector_sw_isolated (c : Cfg) (q : Csr) (e1 e2 : Bool) (s1 s2 x1 x2 : M2S) (rd : S2M) (hsel : q.sel = false) :
    (mux c q e1 s1 x1 rd).1 = (mux c q e2 s2 x2 rd).1 ∧ (mux c q e1 s1 x1 rd).2.1 = {} := by
  simp [mux, hsel]

/-- in software mode a command appears on the PHY side only in a cycle with the issue strobe -/
theorem injector_sw_idle_without_issue (c : Cfg) (q : Csr) (e : Bool) (s x : M2S) (rd : S2M)
    (hsel : q.sel = false) (hi : q.issue = false) :
    let m := (mux c q e s x rd).1
    m.casN = 1 ∧ m.rasN = 1 ∧ m.weN = 1 ∧ m.wrdataEn = 0 ∧ m.rddataEn = 0 := by
  simp [mux, hsel, phaseInj, hi]

end injector

section serializer
open RateConv

/-- run a serializer for `k` fast ticks without a slow tick -/
def fastTicks {α : Type} (ratio : Nat) : Nat → Ser α → Ser α
  | 0, s => s
  | k + 1, s => fastTicks ratio k (Ser.step ratio s false [])

theorem fastTicks_eq {α : Type} (ratio k : Nat) (s : Ser α) (h : s.cnt + k < ratio) :
    fastTicks ratio k s = ⟨s.iD, s.cnt + k⟩ := by
  induction k generalizing s with
  | zero => rfl
  | succ k ih =>
    have hne : ¬ s.cnt = ratio - 1 := by omega
    rw [fastTicks, ih _ (by simp [Ser.step, hne]; omega)]
    simp [Ser.step, hne]; omega

theorem step_latch {α : Type} (ratio : Nat) (s : Ser α) (hc : s.cnt = ratio - 1) (word : List α) :
    Ser.step ratio s true word = ⟨word, 0⟩ := by
  simp [Ser.step, hc]

/-- **Serializer latency and order**: a word latched at a slow edge (when the counter is at `ratio − 1`, which
is where the aligned counter stands at every slow edge) is emitted slot by slot on the following `ratio`
fast cycles: slot `j` in the `j`-th cycle after the edge — each slot exactly once, in order. -/
theorem serializer_sequence {α : Type} [Inhabited α] (ratio : Nat) (hr : 0 < ratio) (s : Ser α) (hc : s.cnt = ratio - 1)
    (word : List α) (j : Nat) (hj : j < ratio) :
    (fastTicks ratio j (Ser.step ratio s true word)).out = word.getD j default := by
  rw [step_latch ratio s hc, fastTicks_eq _ _ _ (by simpa using hj)]
  simp [Ser.out]

/-- and after `ratio` fast ticks the counter is back at `ratio − 1`: the alignment is an invariant -/
theorem serializer_realigned {α : Type} (ratio : Nat) (hr : 0 < ratio) (s : Ser α) (hc : s.cnt = ratio - 1) (word : List α) :
    (fastTicks ratio (ratio - 1) (Ser.step ratio s true word)).cnt = ratio - 1 := by
  rw [step_latch ratio s hc, fastTicks_eq _ _ _ (by simpa using Nat.sub_lt hr Nat.one_pos)]
  simp

end serializer

example : (fastTicks 4 2 (RateConv.Ser.step 4 ⟨[0, 0, 0, 0], 3⟩ true [10, 11, 12, 13])).out = 12 := by decide

end C18
