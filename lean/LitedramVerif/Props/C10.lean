/-
C10: Wishbone port - one acknowledge per access and memory semantics.
Theorems about the front-end FSMs of Model/Wishbone.lean, for every master behaviour (including aborts at any
cycle) and every port timing.
-/
import LitedramVerif.Model.Wishbone
namespace C10
open Wishbone

section W2N
open W2N

/-- an acknowledge is only given to a master that is still requesting (CYC high, not aborted), and only in the
cycle the pending access completes (the FSM returns to CMD) -/
theorem ack_only_on_completion (c : Cfg) (s : State) (i : WbIn) (p : PortResp) (h : (step c s i p).2.ack = true) :
    i.cyc = true ∧ s.aborted = false ∧ s.fsm ≠ .cmd ∧ (step c s i p).1.fsm = .cmd := by
  cases hf : s.fsm <;> simp [step, hf] at h ⊢ <;> simp [h]

/-- **An abort is never acknowledged.** If CYC is dropped (now or earlier during this access) the access completes
silently, and the abort is remembered until the FSM is back in CMD. -/
theorem abort_never_acked (c : Cfg) (s : State) (i : WbIn) (p : PortResp) (hb : s.fsm ≠ .cmd)
    (ha : i.cyc = false ∨ s.aborted = true) :
    (step c s i p).2.ack = false ∧ ((step c s i p).1.fsm ≠ .cmd → (step c s i p).1.aborted = true) := by
  cases hf : s.fsm <;> simp [hf] at hb <;> rcases ha with ha | ha <;> simp [step, hf, ha]

/-- **An aborted write cannot hang or corrupt** (the behaviour repaired by fix ef1ae6e): after an abort the WRITE
state keeps offering a data beat with no byte enabled, so the controller's single `wdata.ready` strobe completes it. -/
theorem aborted_write_completes (c : Cfg) (s : State) (i : WbIn) (p : PortResp) (hw : s.fsm = .write)
    (ha : i.cyc = false ∨ s.aborted = true) :
    (portReq c s i).wValid = true ∧ (portReq c s i).wWe = 0 ∧
    (p.wReady = true → (step c s i p).1.fsm = .cmd) := by
  rcases ha with ha | ha <;> simp [portReq, step, hw, ha]

/-- a write that is not aborted presents the master's data and byte selects, and is acknowledged exactly when the
port takes them -/
theorem write_completes (c : Cfg) (s : State) (i : WbIn) (p : PortResp) (hw : s.fsm = .write)
    (hc : i.cyc = true) (hs : i.stb = true) (hwe : i.we = true) (ha : s.aborted = false) :
    (portReq c s i).wValid = true ∧ (portReq c s i).wData = i.datW ∧ (portReq c s i).wWe = i.sel ∧
    (step c s i p).2.ack = p.wReady ∧ (step c s i p).1.fsm = (if p.wReady then Fsm.cmd else Fsm.write) := by
  simp [portReq, step, hw, hc, hs, hwe, ha]

/-- a read that is not aborted is acknowledged with the port's word in the cycle it arrives -/
theorem read_completes (c : Cfg) (s : State) (i : WbIn) (p : PortResp) (hr : s.fsm = .read)
    (hc : i.cyc = true) (ha : s.aborted = false) :
    (step c s i p).2.ack = p.rValid ∧ (p.rValid = true → (step c s i p).2.datR = p.rData) ∧
    (step c s i p).1.fsm = (if p.rValid then Fsm.cmd else Fsm.read) := by
  simp [step, hr, hc, ha]
  intro h; simp [h]

/-- the command: address relative to the base, the bus's direction; issued only from CMD while the master requests -/
theorem command_issued (c : Cfg) (s : State) (i : WbIn) (p : PortResp) :
    (portReq c s i).cmdAddr = relAddr c i.adr ∧ (portReq c s i).cmdWe = i.we ∧
    ((portReq c s i).cmdValid = true ↔ (s.fsm = .cmd ∧ i.cyc = true ∧ i.stb = true)) ∧
    (s.fsm = .cmd → ((portReq c s i).cmdValid && p.cmdReady) = true →
      (step c s i p).1.fsm = (if i.we then Fsm.write else Fsm.read) ∧ (step c s i p).1.aborted = false) := by
  refine ⟨rfl, rfl, by simp [portReq, Bool.and_assoc], ?_⟩
  intro hs h
  simp [step, hs, h]

/-- 1 while an access is in flight -/
def busy (s : State) : Nat := if s.fsm = .cmd then 0 else 1

/-- counting over a whole run: commands accepted by the port, accesses completed, acknowledges given -/
def counts (c : Cfg) : State → List (WbIn × PortResp) → Nat × Nat × Nat
  | _, [] => (0, 0, 0)
  | s, (i, p) :: rest =>
    let r := counts c (step c s i p).1 rest
    (r.1 + (if (portReq c s i).cmdValid && p.cmdReady then 1 else 0),
     r.2.1 + (if busy s = 1 ∧ busy (step c s i p).1 = 0 then 1 else 0),
     r.2.2 + (if (step c s i p).2.ack then 1 else 0))

def runS (c : Cfg) : State → List (WbIn × PortResp) → State
  | s, [] => s
  | s, (i, p) :: rest => runS c (step c s i p).1 rest

theorem step_counts (c : Cfg) (s : State) (i : WbIn) (p : PortResp) :
    (if (portReq c s i).cmdValid && p.cmdReady then 1 else 0) + busy s =
      (if busy s = 1 ∧ busy (step c s i p).1 = 0 then 1 else 0) + busy (step c s i p).1 ∧
    (if (step c s i p).2.ack then 1 else 0) ≤ (if busy s = 1 ∧ busy (step c s i p).1 = 0 then 1 else 0) := by
  cases hf : s.fsm
  · cases hacc : ((portReq c s i).cmdValid && p.cmdReady) <;> cases hw : i.we <;> simp [busy, step, hf, hacc, hw]
  all_goals
    have hv : ((portReq c s i).cmdValid && p.cmdReady) = false := by simp [portReq, hf]
    cases ha : (step c s i p).2.ack
    · by_cases hd : (step c s i p).1.fsm = .cmd <;> simp [busy, hf, hv, hd]
    · simp [busy, hf, hv, (ack_only_on_completion c s i p ha).2.2.2]

/-- **Exactly one completion per accepted access, at most one acknowledge per completion**, under every schedule:
`accepted = completed + (1 if an access is in flight at the end)` (with the in-flight access at the start counted),
and `acknowledges ≤ completed`. -/
theorem one_ack_per_access (c : Cfg) (ins : List (WbIn × PortResp)) (s : State) :
    let n := counts c s ins
    n.1 + busy s = n.2.1 + busy (runS c s ins) ∧ n.2.2 ≤ n.2.1 := by
  induction ins generalizing s with
  | nil => simp [counts, runS]
  | cons ip rest ih =>
    obtain ⟨i, p⟩ := ip
    obtain ⟨h1, h2⟩ := ih (step c s i p).1
    obtain ⟨h3, h4⟩ := step_counts c s i p
    simp only [counts, runS]
    omega

end W2N

section Up
open Up

/-- a beat lands in its lane and nowhere else -/
theorem lane_of_shifted (c : Cfg) (d ch k : Nat) (hd : d < 2 ^ c.dw) :
    lane c (d * 2 ^ (c.dw * ch)) k = if k = ch then d else 0 := by
  unfold lane
  have hS := Nat.two_pow_pos (c.dw * ch)
  rcases Nat.lt_trichotomy k ch with h | rfl | h
  · -- lower lane: the shifted beat is a multiple of `2^(dw·k) · 2^dw`
    have hle : c.dw * k + c.dw ≤ c.dw * ch := Nat.mul_succ .. ▸ Nat.mul_le_mul_left _ h
    rw [if_neg (by omega), ← Nat.mod_mul_right_div_self, ← Nat.pow_add,
      Nat.mod_eq_zero_of_dvd (Nat.dvd_trans (Nat.pow_dvd_pow 2 hle) (Nat.dvd_mul_left ..)), Nat.zero_div]
  · rw [if_pos rfl, Nat.mul_div_cancel _ hS, Nat.mod_eq_of_lt hd]
  · -- higher lane: the beat is too small to reach it
    have hle : c.dw * ch + c.dw ≤ c.dw * k := Nat.mul_succ .. ▸ Nat.mul_le_mul_left _ h
    rw [if_neg (by omega), Nat.div_eq_of_lt, Nat.zero_mod]
    calc d * 2 ^ (c.dw * ch) < 2 ^ c.dw * 2 ^ (c.dw * ch) := Nat.mul_lt_mul_of_pos_right hd hS
      _ = 2 ^ (c.dw * ch + c.dw) := by rw [Nat.pow_add, Nat.mul_comm]
      _ ≤ 2 ^ (c.dw * k) := Nat.pow_le_pow_right (by decide) hle

/-- **Cached data is never served stale.** Any Wishbone write seen in CMD, and any cycle without CYC, invalidates the
read cache; a read while a merged write is pending is not answered from anywhere: the write is drained first. -/
theorem write_invalidates_cache (c : Cfg) (s : State) (i : WbIn) (p : PortResp) (hs : s.fsm = .cmd)
    (h : i.cyc = false ∨ (i.stb = true ∧ i.we = true)) :
    (step c s i p).1.rdCacheValid = false := by
  cases hc : i.cyc
  · cases hv : s.wrValid <;> simp [step, hs, hc, hv]
  · rcases h with h | ⟨h1, h2⟩
    · simp [hc] at h
    · cases hm : (!s.wrValid || (s.wrAddr == wideAddr c i && (s.wrSel &&& 2 ^ chunk c i) == 0)) <;>
        simp [step, hs, hc, h1, h2, hm]

theorem read_waits_for_pending_write (c : Cfg) (s : State) (i : WbIn) (p : PortResp) (hs : s.fsm = .cmd)
    (hc : i.cyc = true) (hst : i.stb = true) (hr : i.we = false) (hp : s.wrValid = true) :
    (step c s i p).2.ack = false ∧ (step c s i p).1.fsm = .writeCmd ∧ (step c s i p).1.wrLast = true ∧
    (step c s i p).1.wrData = s.wrData ∧ (step c s i p).1.wrWe = s.wrWe := by
  simp [step, hs, hc, hst, hr, hp]

/-- a cache hit returns the requested lane of a word that was read from the port, for the same wide address, with no
write since (`rdCacheValid`), and an acknowledged port read returns the requested lane of the word just read -/
theorem read_hit_data (c : Cfg) (s : State) (i : WbIn) (p : PortResp) (hs : s.fsm = .cmd)
    (hc : i.cyc = true) (hst : i.stb = true) (hr : i.we = false) (hp : s.wrValid = false)
    (hv : s.rdCacheValid = true) (ha : s.rdCacheAddr = wideAddr c i) :
    (step c s i p).2.ack = true ∧ (step c s i p).2.datR = lane c s.rdCacheData (chunk c i) := by
  simp [step, hs, hc, hst, hr, hp, hv, ha]

theorem read_port_data (c : Cfg) (s : State) (i : WbIn) (p : PortResp) (hs : s.fsm = .readData) (hv : p.rValid = true) :
    (step c s i p).2.ack = (i.cyc && !s.aborted) ∧
    ((step c s i p).2.ack = true → (step c s i p).2.datR = lane c p.rData s.rdChunk) ∧
    (step c s i p).1.fsm = .cmd ∧ (step c s i p).1.rdCacheData = p.rData ∧ (step c s i p).1.rdCacheAddr = s.rdAddr ∧
    ((step c s i p).1.rdCacheValid = true → i.cyc = true ∧ s.aborted = false ∧ s.rdLast = false) := by
  simp only [step, hs, hv]
  cases i.cyc <;> cases s.aborted <;> simp

/-- a merged write: the beat is acknowledged at once, stored in its lane with its byte selects, other lanes kept -/
theorem write_merged (c : Cfg) (s : State) (i : WbIn) (p : PortResp) (hs : s.fsm = .cmd)
    (hc : i.cyc = true) (hst : i.stb = true) (hw : i.we = true)
    (hm : (!s.wrValid || (s.wrAddr == wideAddr c i && (s.wrSel &&& 2 ^ chunk c i) == 0)) = true) :
    (step c s i p).2.ack = true ∧ (step c s i p).1.wrValid = true ∧
    (step c s i p).1.wrAddr = (if s.wrValid then s.wrAddr else wideAddr c i) ∧
    (step c s i p).1.wrData = (if s.wrValid then s.wrData ||| (i.datW % 2 ^ c.dw) * 2 ^ (c.dw * chunk c i) else (i.datW % 2 ^ c.dw) * 2 ^ (c.dw * chunk c i)) ∧
    (step c s i p).1.wrSel = s.wrSel ||| 2 ^ chunk c i := by
  simp [step, hs, hc, hst, hw, hm]

/-- the up-converter acknowledges only a requesting master -/
theorem up_ack_requires_cyc (c : Cfg) (s : State) (i : WbIn) (p : PortResp) (h : (step c s i p).2.ack = true) :
    i.cyc = true := by
  cases hf : s.fsm <;> simp only [step, hf] at h
  · cases hc : i.cyc
    · simp [hc] at h; split at h <;> simp at h
    · rfl
  case readData =>
    cases hv : p.rValid <;> simp [hv] at h
    exact h.1
  all_goals split at h <;> simp at h

end Up

section N2W
open N2W

/-- each native command becomes one Wishbone access at the mapped address; a write carries the port's data and byte
enables and releases them on ACK; a read returns DAT_R on ACK -/
theorem n2w_access (c : Cfg) (s : State) (i : In) :
    (s.fsm = .cmd → (step c s i).2.cmdReady = i.cmdValid ∧ (step c s i).2.cyc = false ∧
      (i.cmdValid = true → (step c s i).1.fsm = (if i.cmdWe then Fsm.write else Fsm.read) ∧
        (step c s i).1.adr = (if c.byteAddressing then i.cmdAddr * (c.dw / 8) + c.base else i.cmdAddr + c.base / (c.dw / 8)) % 2 ^ 32)) ∧
    (s.fsm = .write → i.wValid = true → (step c s i).2.stb = true ∧ (step c s i).2.we = true ∧ (step c s i).2.datW = i.wData ∧
      (step c s i).2.sel = i.wWe ∧ (step c s i).2.adr = s.adr % 2 ^ c.adrBits ∧ (step c s i).2.wReady = i.ack ∧
      (step c s i).1.fsm = (if i.ack then Fsm.cmd else Fsm.write)) ∧
    (s.fsm = .read → (step c s i).2.stb = true ∧ (step c s i).2.we = false ∧ (step c s i).2.adr = s.adr % 2 ^ c.adrBits ∧
      (step c s i).2.rValid = i.ack ∧ (i.ack = true → (step c s i).2.rData = i.datR) ∧
      (step c s i).1.fsm = (if i.ack then Fsm.cmd else Fsm.read)) := by
  refine ⟨?_, ?_, ?_⟩
  · intro h; cases hv : i.cmdValid <;> simp [step, h, hv]
  · intro h hv; simp [step, h, hv]
  · intro h; simp [step, h]; intro ha; simp [ha]

end N2W

example : (W2N.step { aw := 8, offset := 0, wider := false } { fsm := .write } ⟨true, true, true, 3, 15, 7, 0⟩ ⟨false, true, false, 0⟩).2.ack = true := by
  simp [W2N.step, W2N.portReq]

end C10
