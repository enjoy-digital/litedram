/-
C01 — every read returns the last bytes written to that address (whole core).

The whole core is modelled cycle-accurately (`Model/Core.lean` = crossbar ∘ controller ∘ simulation PHY)
and co-simulated against the real code; the property itself is the specification monitor
`PortMemory.Mon.step`, evaluated by the check on the implementation's port events.
Proved here (for every configuration): the crossbar facts the data path relies on —
 * `grant_stable_while_busy`   a bank's arbiter cannot move while a command is offered to or queued in the bank,
                               so every strobe of that bank is routed to the master that queued the command
 * `delay_line`                a strobe entering a delay line of length L leaves it exactly L cycles later
 * `wdata_routed`              when exactly one master's delayed write strobe is up, the controller sees that
                               master's data and byte enables (the `Case` on the one-hot vector)
 * `bank_queue_fifo`           per bank, the requests served by RD/WR commands are exactly the requests accepted from
                               the crossbar, in the same order (the look-ahead FIFO with its storage array and pointers
                               and the one-entry buffer refine a list queue) - for every depth and every schedule
together with C06 (address bijection), C02 (bank-machine legality, composed controller), C03 (timing gates).
The top-level refinement `core_memory_semantics_full` is stated, **not proved**.
-/
import LitedramVerif.Model.Core
import LitedramVerif.Spec.PortMemory
import LitedramVerif.Proofs.BmQueue
import LitedramVerif.Proofs.Lists
namespace C01
open Crossbar Hw

/-- **The grant cannot move while the bank is busy**: if the granted master offers a command to the bank
(`bank.valid`) or the bank machine holds commands (`bank.lock`), the arbiter's grant is unchanged by the
clock edge. -/
theorem grant_stable_while_busy (c : Cfg) (s : State) (cb : Comb) (fb : Array BankFb) (w r : Array Bool) (nb : Nat)
    (hnb : nb < c.nbanks) (hbusy : (cb.bankReqs[nb]!).valid = true ∨ (fb[nb]!).lock = true) :
    (step c s cb fb w r).grants[nb]! = s.grants[nb]! := by
  simp only [step]
  rw [Lists.getElem!_map_range _ _ _ hnb]
  have hce : (!(cb.bankReqs[nb]!).valid && !(fb[nb]!).lock) = false := by
    rcases hbusy with h | h <;> simp [h]
  simp [rrStep, hce]

/-- **A bank is offered a command only by the master that holds its arbiter, addresses this bank and has no other bank locked**
(`bank.valid` is `requested[nb][grant]`, and `requested` is `selected ∧ cmd.valid`). -/
theorem bankReq_selected (c : Cfg) (s : State) (ms : Array MasterIn) (fb : Array BankFb) (nb : Nat) (hnb : nb < c.nbanks)
    (hv : ((comb c s ms fb).bankReqs[nb]!).valid = true) :
    AddrMap.bankOf c.geom (ms[s.grants[nb]!]!).cmdAddr = nb ∧
    ∀ ob, ob < c.nbanks → ob ≠ nb → ¬ ((fb[ob]!).lock = true ∧ s.grants[ob]! = s.grants[nb]!) := by
  simp only [comb] at hv
  rw [Lists.getElem!_map_range _ _ _ hnb, Lists.getElem!_map_range _ _ _ hnb] at hv
  obtain ⟨hlt, hsel⟩ := Lists.getElem!_map_true _ _ _ hv
  rw [Array.size_range] at hlt
  rw [Lists.getElem!_range _ _ hlt,
    Lists.getElem!_map_default ms (fun m => AddrMap.bankOf c.geom m.cmdAddr) (show AddrMap.bankOf c.geom 0 = 0 by simp [AddrMap.bankOf])] at hsel
  simp only [Bool.and_eq_true, Bool.not_eq_true', List.any_eq_false, List.mem_range, beq_iff_eq] at hsel
  refine ⟨hsel.1.1, fun ob hob hne ⟨hl, hg⟩ => ?_⟩
  have := hsel.1.2 ob hob
  simp [hne, hl, hg] at this

/-- a delay line of length `L`: pushing `x` and then `L - 1` further values brings `x` to the output tap -/
def push (L : Nat) (line : List Bool) (x : Bool) : List Bool := (x :: line).take L

theorem delay_line_tap (L : Nat) (line : List Bool) (hL : line.length = L) (hpos : 0 < L) (x : Bool) (rest : List Bool)
    (hr : rest.length = L - 1) :
    ((rest.foldl (push L) (push L line x)).getD (L - 1) false) = x := by
  rw [← hr]
  exact Queue.shift_tap L line x rest (by omega) false

/-- **Write-data routing**: with exactly master `nm`'s delayed strobe up, the controller receives that
master's word and byte enables. -/
theorem wdata_routed (c : Cfg) (s : State) (ms : Array MasterIn) (cb : Comb) (nm : Nat)
    (h : writers c s = [nm]) :
    (out c s ms cb).ctlWdata = (ms[nm]!).wdata ∧ (out c s ms cb).ctlWdataWe = (ms[nm]!).wdataWe := by
  simp only [out, h, routeWdata, and_self]

/-- … and when no master or more than one is ready the controller sees zeros (nothing is written) -/
theorem wdata_default (c : Cfg) (s : State) (ms : Array MasterIn) (cb : Comb)
    (h : (writers c s).length ≠ 1) : (out c s ms cb).ctlWdataWe = 0 := by
  simp only [out]
  match hw : writers c s with
  | [] => simp [routeWdata]
  | [_] => simp [hw] at h
  | _ :: _ :: _ => simp [routeWdata]

/-- run the whole-core model and the specification monitor side by side: the port events of a cycle are
what the model shows (accepted = valid ∧ ready; a write's data is what the master offers) -/
def runSpec (c : Core.Cfg) (nbytes : Nat) (inputs : List (Array MasterIn)) : Except String PortMemory.Mon :=
  (inputs.foldl (fun (acc : Core.State × Except String PortMemory.Mon) ms =>
      let r := Core.step c acc.1 ms
      let evs := (Array.range c.xb.nmasters).map fun p =>
        let m := ms[p]!
        let o := (r.2.1)[p]!
        ({ accepted := m.cmdValid && o.cmdReady, we := m.cmdWe, addr := m.cmdAddr, data := m.wdata, mask := m.wdataWe,
           rvalid := o.rdataValid, rdata := o.rdata } : PortMemory.PortEv)
      (r.1, acc.2.bind fun mon => mon.step evs))
    (Core.init c, .ok (PortMemory.Mon.init c.xb.nmasters nbytes))).2

/-- the complete property — **not proved**: for every configuration and every master behaviour that keeps the
contract (commands held until accepted, write data offered with the command), the specification monitor
accepts the whole-core model's port behaviour.  (The check evaluates the same monitor on the implementation.) -/
def core_memory_semantics_full : Prop :=
  ∀ (c : Core.Cfg) (inputs : List (Array MasterIn)), ∃ m, runSpec c (c.phy.dataWidth / 8) inputs = .ok m

/-- **Per-bank order**: from reset, for every command-buffer depth ≥ 2 (a real FIFO; depths 0 and 1 are a wire / a single register and are co-simulated only) and every input history (requests offered or
not, `cmd.ready` from the multiplexer at arbitrary cycles, refresh requests at arbitrary cycles), the sequence of
requests the bank machine has accepted from the crossbar equals the sequence of requests its RD/WR commands have
served so far followed by what is still queued: nothing is lost, duplicated or reordered inside a bank. -/
theorem bank_queue_fifo (c : BankMachine.Cfg) (hd : 2 ≤ c.depth) (ins : List BankMachine.In) :
    let r := BmQueue.runLog c (BankMachine.State.init c) [] [] ins
    r.2.1 = r.2.2 ++ BmQueue.queue c r.1 :=
  (BmQueue.runLog_inv c hd ins (BankMachine.State.init c) [] [] (BmQueue.finv_init c (by omega))
    (by simp [BmQueue.queue, BmQueue.fifoList, BankMachine.State.init])).2

theorem served_prefix_of_accepted (c : BankMachine.Cfg) (hd : 2 ≤ c.depth) (ins : List BankMachine.In) :
    (BmQueue.runLog c (BankMachine.State.init c) [] [] ins).2.2 <+: (BmQueue.runLog c (BankMachine.State.init c) [] [] ins).2.1 :=
  ⟨_, (bank_queue_fifo c hd ins).symm⟩

example :
    let c : BankMachine.Cfg := { depth := 2, tRAS := some 2, tRC := some 3, twtp := 2, tRCD := 1, tRP := 1, colbits := 6, rowbits := 11,
                                 align := 2, abits := 11, ap := false }
    let ins : List BankMachine.In := (List.range 40).map fun k => ⟨k % 3 != 2, k % 2 == 0, (k * 29) % 512, false, k % 4 != 1⟩
    let r := BmQueue.runLog c (BankMachine.State.init c) [] [] ins
    r.2.2.length ≥ 5 ∧ r.2.1.length ≥ r.2.2.length := by decide +kernel
example : (([true, false].foldl (push 3) (push 3 [false, false, false] true)).getD 2 false) = true := by decide

end C01
