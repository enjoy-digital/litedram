/-
Arithmetic on naturals: mixed-radix digits (of `x + m * y`, dropping and inserting a middle one, the carry of `+ 1`), reduction
modulo `n` by one conditional subtraction, distances and slots on a ring of `P` positions.
-/
namespace NatBits

theorem two_pow_mul {a b c : Nat} (h : a + b = c) : 2 ^ a * 2 ^ b = 2 ^ c := by
  rw [← Nat.pow_add, h]

theorem mul_add_self_le {a b : Nat} (k : Nat) (h : a + 1 ≤ b) : a * k + k ≤ b * k :=
  Nat.succ_mul a k ▸ Nat.mul_le_mul_right k h

theorem pred_mul_add {n : Nat} (m : Nat) (hn : 1 ≤ n) : (n - 1) * m + m = n * m := by
  rw [Nat.sub_one_mul, Nat.sub_add_cancel (Nat.le_mul_of_pos_left m hn)]

theorem join_mod {x m : Nat} (y : Nat) (h : x < m) : (x + m * y) % m = x := by
  rw [Nat.add_mul_mod_self_left, Nat.mod_eq_of_lt h]

theorem join_div {x m : Nat} (y : Nat) (h : x < m) : (x + m * y) / m = y := by
  rw [Nat.add_mul_div_left _ _ (Nat.zero_lt_of_lt h), Nat.div_eq_of_lt h, Nat.zero_add]

theorem join_lt {x m y n : Nat} (hx : x < m) (hy : y < n) : x + m * y < m * n :=
  calc x + m * y < m * (y + 1) := by rw [Nat.mul_succ]; omega
    _ ≤ m * n := Nat.mul_le_mul_left m hy

theorem low_field_lt {k n : Nat} (h : k ≤ n) (x : Nat) : x % 2 ^ (n - k) * 2 ^ k < 2 ^ n := by
  rw [← two_pow_mul (Nat.sub_add_cancel h)]
  exact Nat.mul_lt_mul_of_pos_right (Nat.mod_lt _ (Nat.two_pow_pos _)) (Nat.two_pow_pos _)

theorem div_lt_of_lt_mul' {a m n : Nat} (h : a < m * n) : a / m < n :=
  Nat.div_lt_of_lt_mul h

/-! `a` read as three digits `a % m`, `a / m % b`, `a / m / b` (radices `m`, `b`, unbounded). -/

def dropMid (m b a : Nat) : Nat := a % m + m * (a / m / b)

def insertMid (m b x d : Nat) : Nat := x % m + m * (d + b * (x / m))

section
variable {m b n a x d : Nat}

theorem dropMid_lt (hm : 0 < m) (h : a < m * (b * n)) : dropMid m b a < m * n :=
  join_lt (Nat.mod_lt _ hm) (Nat.div_lt_of_lt_mul (Nat.div_lt_of_lt_mul h))

theorem insertMid_lt (hm : 0 < m) (hd : d < b) (hx : x < m * n) : insertMid m b x d < m * (b * n) :=
  join_lt (Nat.mod_lt _ hm) (join_lt hd (Nat.div_lt_of_lt_mul hx))

theorem insertMid_dropMid (hm : 0 < m) : insertMid m b (dropMid m b a) (a / m % b) = a := by
  have hlo := Nat.mod_lt a hm
  rw [insertMid, dropMid, join_mod _ hlo, join_div _ hlo, Nat.mod_add_div, Nat.mod_add_div]

theorem insertMid_digit (hm : 0 < m) (hd : d < b) : insertMid m b x d / m % b = d := by
  rw [insertMid, join_div _ (Nat.mod_lt _ hm), join_mod _ hd]

theorem dropMid_insertMid (hm : 0 < m) (hd : d < b) : dropMid m b (insertMid m b x d) = x := by
  have hlo := Nat.mod_lt x hm
  rw [dropMid, insertMid, join_mod _ hlo, join_div _ hlo, join_div _ hd, Nat.mod_add_div]

end

theorem succ_no_carry {a m : Nat} (h : a % m + 1 < m) :
    (a + 1) % m = a % m + 1 ∧ (a + 1) / m = a / m := by
  have e : a + 1 = (a % m + 1) + m * (a / m) := by have := Nat.mod_add_div a m; omega
  rw [e]; exact ⟨join_mod _ h, join_div _ h⟩

theorem succ_carry {a m : Nat} (h : a % m + 1 = m) :
    (a + 1) % m = 0 ∧ (a + 1) / m = a / m + 1 := by
  have e : a + 1 = 0 + m * (a / m + 1) := by
    have := Nat.mod_add_div a m; rw [Nat.mul_succ]; omega
  have hm : 0 < m := by omega
  rw [e]; exact ⟨join_mod _ hm, join_div _ hm⟩

/-- what the hardware computes in place of `% n` on a value below `2 * n` -/
theorem wrap_eq_mod {a n : Nat} (h : a < 2 * n) : (if a < n then a else a - n) = a % n := by
  split
  next h1 => exact (Nat.mod_eq_of_lt h1).symm
  next h1 => rw [Nat.mod_eq_sub_mod (Nat.le_of_not_lt h1), Nat.mod_eq_of_lt (by omega)]

theorem succ_wrap_eq_mod {p n : Nat} (h : p < n) : (if p + 1 == n then 0 else p + 1) = (p + 1) % n := by
  rw [← wrap_eq_mod (by omega : p + 1 < 2 * n)]
  simp only [beq_iff_eq]
  split <;> split <;> omega

/-- the hardware's distance on a ring of `P` positions: `+ P`, subtract, truncate -/
theorem ring_dist (B off P : Nat) (hP : 0 < P) : ((B + off) % P + P - B % P) % P = off % P := by
  rw [Nat.add_mod B off P]
  have hb : B % P < P := Nat.mod_lt _ hP
  have ho : off % P < P := Nat.mod_lt _ hP
  generalize B % P = b at *
  generalize off % P = o at *
  by_cases h : b + o < P
  · rw [Nat.mod_eq_of_lt h, show b + o + P - b = o + P by omega, Nat.add_mod_right, Nat.mod_eq_of_lt ho]
  · rw [Nat.mod_eq_sub_mod (Nat.le_of_not_lt h), Nat.mod_eq_of_lt (a := b + o - P) (by omega),
      show b + o - P + P - b = o by omega, Nat.mod_eq_of_lt ho]

theorem ring_dist_lt (R W P : Nat) (hRW : R ≤ W) (hd : W - R < P) : (W % P + P - R % P) % P = W - R := by
  have := ring_dist R (W - R) P (by omega)
  rwa [Nat.add_sub_cancel' hRW, Nat.mod_eq_of_lt hd] at this

theorem ring_slot_ne (i W P : Nat) (h1 : i < W) (h2 : W - i < P) : i % P ≠ W % P := by
  intro h
  have := ring_dist_lt i W P (by omega) h2
  rw [h, Nat.add_sub_cancel_left, Nat.mod_self] at this
  omega

theorem pred_phase_ne {n p : Nat} (hn : 2 ≤ n) (hp : p < n) : (p + n - 1) % n ≠ p := by
  have := ring_slot_ne (p + n - 1) (p + n) n (by omega) (by omega)
  rwa [Nat.add_mod_right, Nat.mod_eq_of_lt hp] at this

theorem xor_eq_zero_iff {x y : Nat} : x ^^^ y = 0 ↔ x = y :=
  ⟨fun h => by rw [← Nat.xor_zero x, ← Nat.xor_self y, ← Nat.xor_assoc, h, Nat.zero_xor], fun h => h ▸ Nat.xor_self x⟩

theorem testBit_mod_two_pow_of_lt {i n : Nat} (x : Nat) (h : i < n) : (x % 2 ^ n).testBit i = x.testBit i := by
  rw [Nat.testBit_mod_two_pow, decide_eq_true h, Bool.true_and]

end NatBits
