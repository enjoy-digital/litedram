/-
Which command the multiplexer takes from the refresher in a cycle, as a function of the refresher's FSM state and its two
timeline counters (`evR_cases`).  In namespace `RfTiming`, whose invariant is stated over `evR`.
-/
import LitedramVerif.Proofs.RefresherInv
import LitedramVerif.Spec.TimingMon
namespace RfTiming
open Hw Refresher RefresherInv TimingMon

/-- the refresher's accepted command as a monitor event (`ready` = the multiplexer is in REFRESH) -/
def evR (c : Cfg) (s : State) (ready : Bool) : Option Ev :=
  if (out c s).valid && ready then
    (if s.ras && s.we && !s.cas then some .prea else if s.cas && s.ras && !s.we then some .ref
     else if s.we && !s.ras && !s.cas then some .zqc else none)
  else none

theorem evR_iff (c : Cfg) (s : State) (ready : Bool) (e : Ev) :
    evR c s ready = some e ↔ (out c s).valid = true ∧ ready = true ∧
      ((e = .prea ∧ s.ras = true ∧ s.we = true ∧ s.cas = false) ∨ (e = .ref ∧ s.cas = true ∧ s.ras = true ∧ s.we = false) ∨
       (e = .zqc ∧ s.we = true ∧ s.ras = false ∧ s.cas = false)) := by
  unfold evR
  cases (out c s).valid <;> simp
  cases s.ras <;> cases s.we <;> cases s.cas <;> simp [eq_comm]

theorem evR_of_regs (c : Cfg) (s : State) (ready : Bool) (e : RCmd) (h : regsAre c s e) :
    (evR c s ready = some .prea ↔ (out c s).valid = true ∧ ready = true ∧ e = .prea) ∧
    (evR c s ready = some .ref ↔ (out c s).valid = true ∧ ready = true ∧ e = .ref) ∧
    (evR c s ready = some .zqc ↔ (out c s).valid = true ∧ ready = true ∧ e = .zqc) := by
  simp only [evR_iff]
  cases e <;> simp only [regsAre] at h <;> simp [h]

theorem evR_cases (c : Cfg) (hwf : WF c) (s : State) (pd : Bool) (ready : Bool) (h : Inv c s pd) (hr : inRef s.fsm = true → ready = true) :
    (evR c s ready = some .prea ↔ (s.fsm = .doRefresh ∧ s.exCounter = 1) ∨ (s.fsm = .doZqcs ∧ s.zqCounter = 1)) ∧
    (evR c s ready = some .ref ↔ (s.fsm = .doRefresh ∧ s.exCounter = c.tRP + 1)) ∧
    (evR c s ready = some .zqc ↔ (s.fsm = .doZqcs ∧ s.zqCounter = c.tRP + 1)) := by
  have hf := h.fsmI
  have hrp := hwf.tRP
  -- the registers show `expected`; it is issued while the FSM holds `valid` up, which it does for as long as a counter runs
  obtain ⟨ep, er, ez⟩ := evR_of_regs c s ready _ h.regs
  rw [ep, er, ez]
  unfold expected
  cases hfs : s.fsm <;> simp only [hfs] at hf
  · simp [out_idle c s hfs]
  · simp only [hf.1, hf.2.1]; grind
  · have hrd : ready = true := hr (by simp [inRef, hfs])
    by_cases hsd : seqDone s = true
    · simp only [hf.1, (h.seqDone_rest hsd).2.1]; grind
    · simp only [out_doRefresh c s hfs, hsd, hrd, hf.1]; grind
  · have hrd : ready = true := hr (by simp [inRef, hfs])
    by_cases hzd : s.zqDone = true
    · simp only [hf.1, h.zqDone0 hzd]; grind
    · simp only [out_doZqcs c s hfs, hzd, hrd, hf.1]; grind

end RfTiming
