/-
The control path of `BankMachine.step`: the next FSM state, the row-open flag and the accepted command are functions of the FSM
state and nine Booleans (`nxt`, `roS`, `cmdS`), always in this order:
`rdy` `rfr`: the inputs `cmd.ready`, `refresh_req`;
`bv` `ro` `rh` `ap`: a request is buffered, a row is open, it is that request's row, the request behind it has another row (`apx`);
`tw` `ta` `tc`: the tWTP, tRAS, tRC timers are ready.
`Trans` lists the transitions with their guards, so that a one-step preservation proof is a `cases` on it.
The names are `C02.Cmd` / `C02.cmdOf` and `BmTiming.*` because C02, C03 and the timing proof are stated over them.
-/
import LitedramVerif.Model.BankMachine
namespace C02
open BankMachine

/-- what one bank machine gets accepted in a cycle -/
inductive Cmd | nop | act (row : Nat) | pre | cas (ap : Bool)
deriving Repr, DecidableEq

/-- the AP flag of an accepted CAS is read off the next FSM state: the FSM enters AUTOPRECHARGE in the very cycle in which the CAS
with A10 set is accepted (bankmachine.py: `If(cmd.ready & auto_precharge, NextState("AUTOPRECHARGE"))`; A10 itself: `CtlInv.cas_ap`) -/
def cmdOf (s' : State) (o : Out) (ready : Bool) : Cmd :=
  if o.cmdValid && ready then
    if o.cas then .cas (s'.fsm == .autoprecharge)
    else if o.ras && o.we then .pre
    else if o.ras then .act o.a
    else .nop
  else .nop

end C02

namespace BmTiming
open BankMachine Hw

def nxt (c : Cfg) (f : BankMachine.St) (rdy rfr bv ro rh ap tw ta tc : Bool) : BankMachine.St :=
  match f with
  | .regular =>
    if rfr then .refresh
    else if bv then (if ro then (if rh then (if rdy && ap then .autoprecharge else .regular) else .precharge) else .activate)
    else .regular
  | .precharge => if tw && ta && rdy then enter (c.tRP - 1) .trp .activate else .precharge
  | .autoprecharge => if tw && ta then enter (c.tRP - 1) .trp .activate else .autoprecharge
  | .activate => if tc && rdy then enter (c.tRCD - 1) .trcd .regular else .activate
  | .refresh => if !rfr then .regular else .refresh
  | .trp k => if k + 1 < c.tRP - 1 then .trp (k + 1) else .activate
  | .trcd k => if k + 1 < c.tRCD - 1 then .trcd (k + 1) else .regular

def cmdS (f : BankMachine.St) (rdy rfr bv ro rh ap tw ta tc : Bool) (row : Nat) : C02.Cmd :=
  match f with
  | .regular => if !rfr && bv && ro && rh && rdy then .cas ap else .nop
  | .precharge => if tw && ta && rdy then .pre else .nop
  | .activate => if tc && rdy then .act row else .nop
  | _ => .nop

def roS (f : BankMachine.St) (ro tc : Bool) : Bool :=
  match f with
  | .precharge | .autoprecharge | .refresh => false
  | .activate => if tc then true else ro
  | _ => ro

/-- the model's `autoPre` without its `&& !rowClose`: it is read in REGULAR only, where `rowClose` is false -/
def apx (c : Cfg) (s : State) (i : In) : Bool :=
  c.ap && (if c.depth == 0 then i.valid else s.level != 0) && s.bufValid &&
    (rowFull c (if c.depth == 0 then (⟨i.we, i.addr⟩ : Entry) else s.mem[s.consume]!).addr != rowFull c s.buf.addr)

def cmdOfStep (c : Cfg) (s : State) (i : In) : C02.Cmd :=
  C02.cmdOf (BankMachine.step c s i).1 (BankMachine.step c s i).2 i.ready

theorem step_nxt (c : Cfg) (s : State) (i : In) :
    (BankMachine.step c s i).1.fsm = nxt c s.fsm i.ready i.refresh s.bufValid s.rowOpened (s.row == rowFull c s.buf.addr)
      (apx c s i) s.twtp.ready s.tras.ready s.trc.ready := by
  simp only [BankMachine.step, nxt, apx]
  cases s.fsm <;> simp

theorem step_fsm_refresh (c : Cfg) (s : State) (i : In) :
    (BankMachine.step c s i).1.fsm = .refresh ↔ (i.refresh = true ∧ (s.fsm = .regular ∨ s.fsm = .refresh)) := by
  rw [step_nxt]
  cases hf : s.fsm <;> simp [nxt, BankMachine.enter] <;> grind

theorem step_roS (c : Cfg) (s : State) (i : In) :
    (BankMachine.step c s i).1.rowOpened = roS s.fsm s.rowOpened s.trc.ready := by
  simp only [BankMachine.step, roS]
  cases s.fsm <;> simp

/-- the row register is loaded with the ACT, whether or not the ACT is accepted -/
theorem step_row (c : Cfg) (s : State) (i : In) :
    (BankMachine.step c s i).1.row = if s.fsm = .activate ∧ s.trc.ready = true then rowOf c s.buf.addr else s.row := by
  simp only [BankMachine.step]
  cases s.fsm <;> simp

/-- the strobes are spelled as `step` computes them, so that `step_twtp` / `step_tras` / `step_trc` follow by `rfl` -/
theorem step_cmd (c : Cfg) (s : State) (i : In) :
    cmdOfStep c s i = cmdS s.fsm i.ready i.refresh s.bufValid s.rowOpened (s.row == rowFull c s.buf.addr) (apx c s i)
      s.twtp.ready s.tras.ready s.trc.ready (rowFull c s.buf.addr % 2 ^ c.abits) ∧
    ((BankMachine.step c s i).2.cmdValid && i.ready && (BankMachine.step c s i).2.isWrite) =
      (match cmdOfStep c s i with | .cas _ => s.buf.we | _ => false) ∧
    ((BankMachine.step c s i).2.cmdValid && i.ready && (s.fsm == .activate && s.trc.ready)) =
      (match cmdOfStep c s i with | .act _ => true | _ => false) := by
  simp only [cmdOfStep, C02.cmdOf, BankMachine.step, cmdS, apx]
  cases s.fsm <;> grind

theorem step_cmdS (c : Cfg) (s : State) (i : In) :
    cmdOfStep c s i = cmdS s.fsm i.ready i.refresh s.bufValid s.rowOpened (s.row == rowFull c s.buf.addr) (apx c s i)
      s.twtp.ready s.tras.ready s.trc.ready (rowFull c s.buf.addr % 2 ^ c.abits) := (step_cmd c s i).1

theorem cas_regular (c : Cfg) (s : State) (i : In) (ap : Bool) (h : cmdOfStep c s i = .cas ap) : s.fsm = .regular := by
  rw [step_cmdS] at h
  cases hf : s.fsm <;> simp only [hf, cmdS] at h <;> (try split at h) <;> first | rfl | cases h

theorem cmdS_idle (f : St) (rfr bv ro rh ap tw ta tc : Bool) (row : Nat) : cmdS f false rfr bv ro rh ap tw ta tc row = .nop := by
  cases f <;> simp [cmdS]

structure Guards where
  (rdy rfr bv ro rh ap tw ta tc : Bool)
  row : Nat

/-- `Trans c g f f' cmd ro'`: from `f` to `f'`, getting `cmd` accepted, the row-open flag `ro'` afterwards -/
inductive Trans (c : Cfg) (g : Guards) : St → St → C02.Cmd → Bool → Prop
  | toRefresh (h : g.rfr = true) : Trans c g .regular .refresh .nop g.ro
  | regIdle (h1 : g.rfr = false) (h2 : g.bv = false) : Trans c g .regular .regular .nop g.ro
  | toActivate (h1 : g.rfr = false) (h2 : g.bv = true) (h3 : g.ro = false) : Trans c g .regular .activate .nop false
  | toPrecharge (h1 : g.rfr = false) (h2 : g.bv = true) (h3 : g.ro = true) (h4 : g.rh = false) :
      Trans c g .regular .precharge .nop true
  | casAp (h1 : g.rfr = false) (h2 : g.bv = true) (h3 : g.ro = true) (h4 : g.rh = true) (h5 : g.rdy = true) (h6 : g.ap = true) :
      Trans c g .regular .autoprecharge (.cas true) true
  | cas (h1 : g.rfr = false) (h2 : g.bv = true) (h3 : g.ro = true) (h4 : g.rh = true) (h5 : g.rdy = true) (h6 : g.ap = false) :
      Trans c g .regular .regular (.cas false) true
  | casWait (h1 : g.rfr = false) (h2 : g.bv = true) (h3 : g.ro = true) (h4 : g.rh = true) (h5 : g.rdy = false) :
      Trans c g .regular .regular .nop true
  | pre (h1 : g.tw = true) (h2 : g.ta = true) (h3 : g.rdy = true) (hd : 0 < c.tRP - 1) : Trans c g .precharge (.trp 0) .pre false
  | preShort (h1 : g.tw = true) (h2 : g.ta = true) (h3 : g.rdy = true) (hd : ¬ 0 < c.tRP - 1) :
      Trans c g .precharge .activate .pre false
  | preWait (h : (g.tw && g.ta && g.rdy) = false) : Trans c g .precharge .precharge .nop false
  | apDone (h1 : g.tw = true) (h2 : g.ta = true) (hd : 0 < c.tRP - 1) : Trans c g .autoprecharge (.trp 0) .nop false
  | apDoneShort (h1 : g.tw = true) (h2 : g.ta = true) (hd : ¬ 0 < c.tRP - 1) : Trans c g .autoprecharge .activate .nop false
  | apWait (h : (g.tw && g.ta) = false) : Trans c g .autoprecharge .autoprecharge .nop false
  | act (h1 : g.tc = true) (h2 : g.rdy = true) (hd : 0 < c.tRCD - 1) : Trans c g .activate (.trcd 0) (.act g.row) true
  | actShort (h1 : g.tc = true) (h2 : g.rdy = true) (hd : ¬ 0 < c.tRCD - 1) : Trans c g .activate .regular (.act g.row) true
  | actWait (h : (g.tc && g.rdy) = false) : Trans c g .activate .activate .nop (if g.tc then true else g.ro)
  | refDone (h : g.rfr = false) : Trans c g .refresh .regular .nop false
  | refStay (h : g.rfr = true) : Trans c g .refresh .refresh .nop false
  | trpCount (k : Nat) (h : k + 1 < c.tRP - 1) : Trans c g (.trp k) (.trp (k + 1)) .nop g.ro
  | trpDone (k : Nat) (h : ¬ k + 1 < c.tRP - 1) : Trans c g (.trp k) .activate .nop g.ro
  | trcdCount (k : Nat) (h : k + 1 < c.tRCD - 1) : Trans c g (.trcd k) (.trcd (k + 1)) .nop g.ro
  | trcdDone (k : Nat) (h : ¬ k + 1 < c.tRCD - 1) : Trans c g (.trcd k) .regular .nop g.ro

theorem trans_nxt (c : Cfg) (f : St) (g : Guards) :
    Trans c g f (nxt c f g.rdy g.rfr g.bv g.ro g.rh g.ap g.tw g.ta g.tc) (cmdS f g.rdy g.rfr g.bv g.ro g.rh g.ap g.tw g.ta g.tc g.row)
      (roS f g.ro g.tc) := by
  cases f <;> simp only [nxt, cmdS, roS, enter]
  · cases h1 : g.rfr
    · cases h2 : g.bv
      · exact .regIdle h1 h2
      · cases h3 : g.ro
        · exact .toActivate h1 h2 h3
        · cases h4 : g.rh
          · exact .toPrecharge h1 h2 h3 h4
          · cases h5 : g.rdy
            · exact .casWait h1 h2 h3 h4 h5
            · cases h6 : g.ap
              · exact .cas h1 h2 h3 h4 h5 h6
              · exact .casAp h1 h2 h3 h4 h5 h6
    · exact .toRefresh h1
  · cases h : (g.tw && g.ta && g.rdy)
    · exact .preWait h
    · simp only [Bool.and_eq_true] at h
      by_cases hd : 0 < c.tRP - 1
      · exact if_pos hd ▸ .pre h.1.1 h.1.2 h.2 hd
      · exact if_neg hd ▸ .preShort h.1.1 h.1.2 h.2 hd
  · cases h : (g.tw && g.ta)
    · exact .apWait h
    · simp only [Bool.and_eq_true] at h
      by_cases hd : 0 < c.tRP - 1
      · exact if_pos hd ▸ .apDone h.1 h.2 hd
      · exact if_neg hd ▸ .apDoneShort h.1 h.2 hd
  · cases h : (g.tc && g.rdy)
    · exact .actWait h
    · simp only [Bool.and_eq_true] at h
      rw [if_pos h.1]
      by_cases hd : 0 < c.tRCD - 1
      · exact if_pos hd ▸ .act h.1 h.2 hd
      · exact if_neg hd ▸ .actShort h.1 h.2 hd
  · cases h : g.rfr
    · exact .refDone h
    · exact .refStay h
  · split
    · exact .trpCount _ ‹_›
    · exact .trpDone _ ‹_›
  · split
    · exact .trcdCount _ ‹_›
    · exact .trcdDone _ ‹_›

def guards (c : Cfg) (s : State) (i : In) : Guards :=
  ⟨i.ready, i.refresh, s.bufValid, s.rowOpened, s.row == rowFull c s.buf.addr, apx c s i, s.twtp.ready, s.tras.ready, s.trc.ready,
    rowFull c s.buf.addr % 2 ^ c.abits⟩

/-- the four results are named so that `cases` on the `Trans` applies -/
theorem step_trans (c : Cfg) (s : State) (i : In) :
    ∃ f f' cmd ro', s.fsm = f ∧ (BankMachine.step c s i).1.fsm = f' ∧
      C02.cmdOf (BankMachine.step c s i).1 (BankMachine.step c s i).2 i.ready = cmd ∧
      (BankMachine.step c s i).1.rowOpened = ro' ∧ Trans c (guards c s i) f f' cmd ro' :=
  ⟨_, _, _, _, rfl, step_nxt c s i, step_cmdS c s i, step_roS c s i, trans_nxt c s.fsm (guards c s i)⟩

theorem step_summary (c : Cfg) (s : State) (i : In) :
    (BankMachine.step c s i).1.fsm = nxt c s.fsm i.ready i.refresh s.bufValid s.rowOpened (s.row == rowFull c s.buf.addr) (apx c s i)
        s.twtp.ready s.tras.ready s.trc.ready ∧
    (BankMachine.step c s i).1.rowOpened = roS s.fsm s.rowOpened s.trc.ready ∧
    ∃ row, cmdOfStep c s i = cmdS s.fsm i.ready i.refresh s.bufValid s.rowOpened (s.row == rowFull c s.buf.addr) (apx c s i)
        s.twtp.ready s.tras.ready s.trc.ready row :=
  ⟨step_nxt c s i, step_roS c s i, _, step_cmdS c s i⟩

theorem step_twtp (c : Cfg) (s : State) (i : In) :
    (BankMachine.step c s i).1.twtp =
      TX.step (some c.twtp) s.twtp (match cmdOfStep c s i with | .cas _ => s.buf.we | _ => false) := by
  rw [← (step_cmd c s i).2.1]; rfl
theorem step_tras (c : Cfg) (s : State) (i : In) :
    (BankMachine.step c s i).1.tras =
      TX.step c.tRAS s.tras (match cmdOfStep c s i with | .act _ => true | _ => false) := by
  rw [← (step_cmd c s i).2.2]; rfl
theorem step_trc (c : Cfg) (s : State) (i : In) :
    (BankMachine.step c s i).1.trc =
      TX.step c.tRC s.trc (match cmdOfStep c s i with | .act _ => true | _ => false) := by
  rw [← (step_cmd c s i).2.2]; rfl

theorem step_refreshGnt (c : Cfg) (s : State) (i : In) :
    (BankMachine.step c s i).2.refreshGnt = (s.fsm == .refresh && s.twtp.ready && s.tras.ready) := rfl

theorem step_cmdValid (c : Cfg) (s : State) (i : In) :
    (BankMachine.step c s i).2.cmdValid =
      ((s.fsm == .regular && !i.refresh && s.bufValid && s.rowOpened && (s.row == rowFull c s.buf.addr)) ||
        (s.fsm == .precharge && s.twtp.ready && s.tras.ready) || (s.fsm == .activate && s.trc.ready)) := rfl

theorem req_cas (c : Cfg) (s : State) (v w : Bool) (a : Nat) (rf : Bool) :
    (req c s v w a rf).cas = (s.fsm == .regular && !rf && s.bufValid && s.rowOpened && (s.row == rowFull c s.buf.addr)) := rfl
theorem req_ras (c : Cfg) (s : State) (v w : Bool) (a : Nat) (rf : Bool) :
    (req c s v w a rf).ras = ((s.fsm == .precharge && s.twtp.ready && s.tras.ready) || (s.fsm == .activate && s.trc.ready)) := rfl
theorem req_isWrite (c : Cfg) (s : State) (v w : Bool) (a : Nat) (rf : Bool) :
    (req c s v w a rf).isWrite = ((req c s v w a rf).cas && s.buf.we) := rfl
theorem req_we (c : Cfg) (s : State) (v w : Bool) (a : Nat) (rf : Bool) :
    (req c s v w a rf).we = ((req c s v w a rf).isWrite || (s.fsm == .precharge && s.twtp.ready && s.tras.ready)) := rfl
theorem req_refreshGnt (c : Cfg) (s : State) (v w : Bool) (a : Nat) (rf : Bool) :
    (req c s v w a rf).refreshGnt = (s.fsm == .refresh && s.twtp.ready && s.tras.ready) := rfl
theorem req_valid (c : Cfg) (s : State) (v w : Bool) (a : Nat) (rf : Bool) :
    (req c s v w a rf).valid =
      ((s.fsm == .regular && !rf && s.bufValid && s.rowOpened && (s.row == rowFull c s.buf.addr)) ||
        (s.fsm == .precharge && s.twtp.ready && s.tras.ready) || (s.fsm == .activate && s.trc.ready)) := rfl

theorem no_cmd_in_refresh (c : Cfg) (s : State) (v w : Bool) (a : Nat) (rf : Bool) (hf : s.fsm = .refresh) :
    (req c s v w a rf).valid = false := by
  rw [req_valid, hf]; rfl

theorem step_wdataReady (c : Cfg) (s : State) (i : In) :
    (BankMachine.step c s i).2.wdataReady = ((req c s i.valid i.we i.addr i.refresh).isWrite && i.ready) := rfl
theorem step_rdataValid (c : Cfg) (s : State) (i : In) :
    (BankMachine.step c s i).2.rdataValid = ((req c s i.valid i.we i.addr i.refresh).isRead && i.ready) := rfl

/-- the output's command lines do not read `ready`, so they are those of `req` (`step` taken with `ready := false`) -/
theorem cmdOfStep_req (c : Cfg) (s : State) (i : In) :
    cmdOfStep c s i =
      (let r := req c s i.valid i.we i.addr i.refresh
       if i.ready then
         (if r.valid then
            (if r.cas then .cas ((BankMachine.step c s i).1.fsm == .autoprecharge) else if r.ras && r.we then .pre
             else if r.ras then .act r.a else .nop)
          else .nop)
       else .nop) := by
  cases hr : i.ready
  · simp [cmdOfStep, C02.cmdOf, hr]
  · simp only [cmdOfStep, C02.cmdOf, hr, Bool.and_true, if_true]
    rfl

end BmTiming
