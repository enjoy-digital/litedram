/-
All bank machines and the multiplexer together: while the refresher waits, `psi` (`BmLive.phi` of the slowest bank machine,
plus `muxWait`) falls on every clock edge until the multiplexer enters REFRESH.
-/
import LitedramVerif.Proofs.CtlLive1
namespace CtlLive
open Controller Hw CtlInv BmLive

def wStep (c : Cfg) (s : State) (ins : Array BankIn) (w : Nat → Nat) : Nat → Nat :=
  fun b => wNext c.bm s.bms[b]! (bmIn c s ins b) (w b)

structure LInv (c : Cfg) (s : State) (w : Nat → Nat) : Prop where
  mok : MOk c s
  wlt : ∀ b, b < c.nbm → w b < accBound c
  /-- an offered command is accepted before its wait reaches `accBound` -/
  j : ∀ b, b < c.nbm → bmValid s.bms[b]! = true → w b + omegaG c s b < accBound c

def maxUpTo (f : Nat → Nat) : Nat → Nat
  | 0 => 0
  | n + 1 => max (maxUpTo f n) (f n)

theorem maxUpTo_le_iff (f : Nat → Nat) (n B : Nat) : maxUpTo f n ≤ B ↔ ∀ b, b < n → f b ≤ B := by
  induction n with
  | zero => simp [maxUpTo]
  | succ n ih =>
    simp only [maxUpTo, Nat.max_le, ih]
    exact ⟨fun ⟨h1, h2⟩ b hb => if e : b = n then e ▸ h2 else h1 b (by omega), fun h => ⟨fun b hb => h b (by omega), h n (by omega)⟩⟩

/-- bound on the cycles until the multiplexer enters REFRESH, as a function of the state -/
def psi (c : Cfg) (s : State) (w : Nat → Nat) : Nat :=
  maxUpTo (fun b => if bmGnt s.bms[b]! then 0 else phi c.bm (accBound c) s.bms[b]! (w b) + 1) c.nbm + muxWait c s + 1

def bmPot (c : Cfg) (s : State) (w : Nat → Nat) (b : Nat) : Nat :=
  if bmGnt s.bms[b]! then 0 else phi c.bm (accBound c) s.bms[b]! (w b) + 1

theorem psi_eq (c : Cfg) (s : State) (w : Nat → Nat) : psi c s w = maxUpTo (bmPot c s w) c.nbm + muxWait c s + 1 := rfl

theorem psi_pos (c : Cfg) (s : State) (w : Nat → Nat) : 0 < psi c s w := Nat.succ_pos _

theorem gnt_stable (c : BankMachine.Cfg) (s : BankMachine.State) (i : BankMachine.In) (hr : i.refresh = true) (hg : bmGnt s = true) :
    bmGnt (BankMachine.step c s i).1 = true := by
  simp only [bmGnt, Bool.and_eq_true, beq_iff_eq] at hg
  obtain ⟨⟨hf, h1⟩, h2⟩ := hg
  rw [bmGnt, step_twtp_refresh c s i hr, step_tras_refresh c s i hr, BmTiming.step_nxt, hr, hf, tx_step_ready _ _ h1,
    show (BankMachine.St.refresh == BankMachine.St.activate && s.trc.ready && i.ready) = false from rfl, tx_step_ready _ _ h2]
  simp [BmTiming.nxt, h1, h2]

structure BmEdge (c : Cfg) (s : State) (ins : Array BankIn) (w : Nat → Nat) (b : Nat) : Prop where
  pot : bmPot c (step c s ins).1 (wStep c s ins w) b ≤ bmPot c s w b - 1
  wlt : wStep c s ins w b < accBound c
  fair : bmValid (step c s ins).1.bms[b]! = true → wStep c s ins w b + omegaG c (step c s ins).1 b < accBound c

theorem bm_edge (c : Cfg) (s : State) (ins : Array BankIn) (w : Nat → Nat) (h : LInv c s w) (hp : Pending c s)
    (hnref : s.fsm ≠ .refresh) (hfr : (step c s ins).1.fsm ≠ .refresh) (b : Nat) (hb : b < c.nbm) : BmEdge c s ins w b := by
  have hk := h.mok
  have hA : omegaGMax c < accBound c := by unfold accBound; omega
  have hv := (reqJ_pending c s ins hp b).valid
  have hrf : (bmIn c s ins b).refresh = true := hp
  have hcv : (BankMachine.step c.bm s.bms[b]! (bmIn c s ins b)).2.cmdValid = bmValid s.bms[b]! := cmdValid_refresh _ _ _ hrf
  have hrdy : (bmIn c s ins b).ready = bmReadyOf c s ins b := rfl
  -- `LInv.j` is the fairness `phi_step` asks for: a wait of `accBound − 1` leaves `omegaG = 0`, and then the command is accepted
  have hfair : (BankMachine.step c.bm s.bms[b]! (bmIn c s ins b)).2.cmdValid = true → w b + 1 = accBound c → (bmIn c s ins b).ready = true := by
    intro hcv1 hw1
    rw [hcv] at hcv1
    have := h.j b hb hcv1
    rw [hrdy]
    exact omegaG_zero c s ins hk hp hnref b hb (by rw [hv]; exact hcv1) (by omega)
  have hphi := phi_step c.bm (accBound c) s.bms[b]! (bmIn c s ins b) (w b) (hk.bm b hb) hrf (h.wlt b hb) hfair
  rw [BmTiming.step_refreshGnt, ← step_bms c s ins b hb] at hphi
  refine { pot := ?_, wlt := ?_, fair := fun hv' => ?_ }
  · -- a grant stays; without one `phi` falls
    simp only [bmPot, wStep]
    cases hg : bmGnt s.bms[b]!
    · rcases hphi with hg' | ⟨hd, _⟩
      · rw [bmGnt, hg'] at hg; cases hg
      · split <;> simp <;> omega
    · rw [step_bms c s ins b hb, gnt_stable c.bm _ _ hrf hg]; simp
  · rcases hphi with hg | ⟨_, hlt⟩
    · -- granting, the bank machine offers nothing
      have : bmValid s.bms[b]! = false := by
        simp only [Bool.and_eq_true, beq_iff_eq] at hg
        simp [bmValid, hg.1.1]
      simp only [wStep, wNext, hcv, this]; simp; omega
    · exact hlt
  · have hle := omegaG_le c (step c s ins).1 (mok_step c s ins hk) b
    by_cases hwait : bmValid s.bms[b]! = true ∧ bmReadyOf c s ins b = false
    · -- still waiting: one more cycle on `w`, one less on `omegaG`
      have hws : wStep c s ins w b = w b + 1 := by
        simp only [wStep, wNext, hcv, hwait.1, hrdy, hwait.2]; simp
      rcases omegaG_step c s ins hk hp hnref b hb (by rw [hv]; exact hwait.1) hwait.2 with hr | hd
      · exact absurd hr hfr
      · have := h.j b hb hwait.1
        omega
    · have hws : wStep c s ins w b = 0 := by
        simp only [wStep, wNext, hcv, hrdy]
        cases h1 : bmValid s.bms[b]! <;> cases h2 : bmReadyOf c s ins b <;> simp_all
      omega

theorem live_step (c : Cfg) (s : State) (ins : Array BankIn) (w : Nat → Nat) (h : LInv c s w) (hw : s.rf.fsm = .waitBm)
    (hnref : s.fsm ≠ .refresh) :
    (step c s ins).1.fsm = .refresh ∨
    (LInv c (step c s ins).1 (wStep c s ins w) ∧ (step c s ins).1.rf.fsm = .waitBm ∧
      psi c (step c s ins).1 (wStep c s ins w) + 1 ≤ psi c s w) := by
  by_cases hfr : (step c s ins).1.fsm = .refresh
  · left; exact hfr
  right
  have hp : Pending c s := (RefresherInv.out_waitBm c.rf s.rf hw).1
  have hk := h.mok
  have hbm := bm_edge c s ins w h hp hnref hfr
  refine ⟨⟨mok_step c s ins hk, fun b hb => (hbm b hb).wlt, fun b hb => (hbm b hb).fair⟩, ?_, ?_⟩
  · -- the multiplexer is not in REFRESH, so the refresher's command is not taken and it keeps waiting
    rw [step_rf, RefresherInv.step_fsm]
    simp only [RefresherInv.fsmNext, hw]
    cases hf : s.fsm <;> simp_all
  · have hM' : muxWait c (step c s ins).1 ≤ muxWait c s - 1 := (muxWait_step c s ins hk hp).resolve_left hfr
    have hmax : maxUpTo (bmPot c (step c s ins).1 (wStep c s ins w)) c.nbm ≤ maxUpTo (bmPot c s w) c.nbm - 1 :=
      (maxUpTo_le_iff _ _ _).mpr fun b hb => Nat.le_trans (hbm b hb).pot
        (Nat.sub_le_sub_right ((maxUpTo_le_iff _ _ _).mp (Nat.le_refl _) b hb) 1)
    simp only [psi_eq]
    by_cases hz : maxUpTo (bmPot c s w) c.nbm = 0 ∧ muxWait c s = 0
    · -- everything granted and the multiplexer in READ/WRITE: it enters REFRESH
      exfalso
      have hall : ∀ b, b < c.nbm → bmGnt s.bms[b]! = true := fun b hb => by
        have := (maxUpTo_le_iff _ _ 0).mp (Nat.le_of_eq hz.1) b hb
        simp only [bmPot] at this
        split at this
        · assumption
        · omega
      have hgo : goRefreshOf c s ins = true := (reqs_all c s ins _).mpr fun b hb => by rw [reqJ_gnt]; exact hall b hb
      exact hfr ((mux_next_refresh c s ins).mpr (Or.inl ⟨(muxWait_active c s hnref).mp hz.2, hgo⟩))
    · omega

theorem psi_le (c : Cfg) (s : State) (w : Nat → Nat) (hk : MOk c s) : psi c s w ≤ psiMax c := by
  have h1 : maxUpTo (bmPot c s w) c.nbm ≤ phiMax c.bm (accBound c) + 1 :=
    (maxUpTo_le_iff _ _ _).mpr fun b hb => by
      have := phi_le c.bm (accBound c) s.bms[b]! (w b) (hk.bm b hb)
      simp only [bmPot]; split <;> omega
  have h4 := muxWait_le c s hk
  simp only [psi_eq, psiMax, muxCap] at h4 ⊢; omega

theorem linv_zero (c : Cfg) (s : State) (hk : MOk c s) : LInv c s (fun _ => 0) where
  mok := hk
  wlt := fun _ _ => by unfold accBound; omega
  j := fun b _ _ => by have := omegaG_le c s hk b; unfold accBound; omega

theorem reach_refresh (c : Cfg) (inputs : List (Array BankIn)) (s : State) (w : Nat → Nat) (h : LInv c s w)
    (hw : s.rf.fsm = .waitBm) (hlen : psi c s w ≤ inputs.length) :
    ∃ k, k ≤ psi c s w ∧ (runCtl c s (inputs.take k)).fsm = .refresh :=
  Run.reach_within (fun st i => (step c st i).1) (fun _ => True) (fun s _ => s.fsm = .refresh)
    (fun n s => s.fsm = .refresh ∨ ∃ w, LInv c s w ∧ s.rf.fsm = .waitBm ∧ psi c s w ≤ n)
    (by
      rintro s _ (h | ⟨w, _, _, h⟩)
      · exact h
      · have := psi_pos c s w; omega)
    (by
      rintro n s i _ (h | ⟨w, hl, hw, hn⟩) _
      · exact Or.inl h
      · by_cases hr : s.fsm = .refresh
        · exact Or.inl hr
        · rcases live_step c s i w hl hw hr with hf | ⟨h', hw', hd⟩
          · exact Or.inr (Or.inl hf)
          · exact Or.inr (Or.inr ⟨_, h', hw', by omega⟩))
    _ inputs s (Or.inr ⟨w, h, hw, Nat.le_refl _⟩) (fun _ _ => trivial) hlen

end CtlLive
