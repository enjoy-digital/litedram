/-
Runs of a step function over a list of inputs (`List.foldl`): invariants, and bounded liveness from a rank.  The liveness results
of the composed controller are stated over such runs.
-/
namespace Run

theorem foldl_inv {σ ι : Type} (step : σ → ι → σ) (I : σ → Prop) (ok : ι → Prop)
    (h : ∀ s i, I s → ok i → I (step s i)) : ∀ (l : List ι) (s : σ), I s → (∀ i ∈ l, ok i) → I (l.foldl step s) := by
  intro l
  induction l with
  | nil => intro s hs _; exact hs
  | cons i rest ih => intro s hs hl; exact ih _ (h s i hs (hl i (by simp))) (fun x hx => hl x (by simp [hx]))

/-- `R n s`: from `s` the event `P` is at most `n` steps away; in the uses an invariant (ghost state hidden under `∃`) together
with `potential ≤ n`.  `P` sees the inputs still to come because an acceptance depends on the current input. -/
theorem reach_within {σ ι : Type} (step : σ → ι → σ) (ok : ι → Prop) (P : σ → List ι → Prop) (R : Nat → σ → Prop)
    (h0 : ∀ s l, R 0 s → P s l)
    (hstep : ∀ n s i l, R (n + 1) s → ok i → P s (i :: l) ∨ R n (step s i)) :
    ∀ (n : Nat) (l : List ι) (s : σ), R n s → (∀ i ∈ l, ok i) → n ≤ l.length →
      ∃ k, k ≤ n ∧ P ((l.take k).foldl step s) (l.drop k) := by
  intro n
  induction n with
  | zero => intro l s hR _ _; exact ⟨0, Nat.le_refl _, h0 s l hR⟩
  | succ n ih =>
    intro l s hR hl hlen
    match l, hl, hlen with
    | i :: rest, hl, hlen =>
      rcases hstep n s i rest hR (hl i (by simp)) with hP | hR'
      · exact ⟨0, Nat.zero_le _, hP⟩
      · obtain ⟨k, hk, hP⟩ := ih rest _ hR' (fun x hx => hl x (by simp [hx])) (by simpa using hlen)
        exact ⟨k + 1, by omega, hP⟩

end Run
