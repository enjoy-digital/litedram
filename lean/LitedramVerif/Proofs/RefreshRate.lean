/-
The refresher's episodes inside the composed controller (for Props/C04_Rate.lean).  Two clocks run against each other.  `epi`
bounds the cycles until the refresher is idle again (`CtlLive.psi` while it waits for the bus, `Wd` for the sequencer's
executions, `zqRem` for the ZQCS executer) and falls on every clock edge outside IDLE; `Tr`, the cycles until the postponer's
next request, counts down to 1 and reloads.  Under `Budget` the invariant `epi ≤ Tr` is inductive (`NL`), so a request always
finds the refresher idle.  On top of `NL`: `Acct` counts AUTO REFRESH commands against requests and time, with `owed` for what
the running episode will still issue; `zpot` bounds the cycles until the ZQC command of a due calibration is taken.
-/
import LitedramVerif.Proofs.CtlLive
import LitedramVerif.Proofs.RfEvents
import LitedramVerif.Proofs.Nf
namespace RefreshRate
open Hw Refresher RefresherInv

/-- cycles until DO-REFRESH is left: `RefresherInv.W + 1` where an executer at rest has finished (`NL.exd`); `W` has an extra case
for the phantom rounds after reset, which start with the done flag clear -/
def Wd (c : Refresher.Cfg) (s : Refresher.State) : Nat :=
  s.seqCount * M c + (if s.exCounter ≠ 0 then M c - s.exCounter else 0) + 1
/-- cycles until DO-ZQCS is left -/
def zqRem (c : Refresher.Cfg) (s : Refresher.State) : Nat :=
  match c.tZQCS with
  | none => 0
  | some z => (if s.zqCounter ≠ 0 then c.tRP + z + 1 - s.zqCounter else 0) + 1

theorem zcnt_le {c : Refresher.Cfg} {r : Refresher.State} {pd : Bool} {z : Nat} (h : Inv c r pd) (hz : c.tZQCS = some z) :
    r.zqCounter ≤ c.tRP + z := by
  have := h.zcntLe; rw [hz] at this; exact this

theorem Wd_start {c : Refresher.Cfg} {r : Refresher.State} {n : Nat} (hn : 1 ≤ n) (ex : r.exCounter = 1) (seq : r.seqCount = n - 1) :
    Wd c r = n * M c := by
  have := NatBits.pred_mul_add (M c) hn
  simp only [Wd, ex, seq, M, if_pos Nat.one_ne_zero] at this ⊢
  omega

theorem idle_step (c : Refresher.Cfg) (r : Refresher.State) (ready : Bool) (hfs : r.fsm = .idle) :
    (Refresher.step c r ready).fsm = if c.withRefresh && r.reqO then .waitBm else .idle := by
  rw [RefresherInv.step_fsm]; simp only [RefresherInv.fsmNext, hfs]

inductive WaitBmEdge (c : Refresher.Cfg) (r' : Refresher.State) (ready : Bool) : Prop
  | wait (nobus : ready = false) (fsm : r'.fsm = .waitBm)
  | start (bus : ready = true) (fsm : r'.fsm = .doRefresh) (ex : r'.exCounter = 1) (seq : r'.seqCount = c.postponing - 1)
      (wd : Wd c r' = c.postponing * M c)

inductive DoRefreshEdge (c : Refresher.Cfg) (r r' : Refresher.State) : Prop
  | run (busy : r.exCounter ≠ 0) (nozq : zqStart c r = false) (fsm : r'.fsm = .doRefresh) (seq : r'.seqCount = r.seqCount)
      (ex : r'.exCounter = if r.exCounter = c.tRP + c.tRFC then 0 else r.exCounter + 1)
  | next (rest : r.exCounter = 0) (more : r.seqCount ≠ 0) (nozq : zqStart c r = false) (fsm : r'.fsm = .doRefresh)
      (seq : r'.seqCount = r.seqCount - 1) (ex : r'.exCounter = 1)
  | last (rest : r.exCounter = 0) (done : r.seqCount = 0) (fsm : r'.fsm = if wantsZqcs c r then .doZqcs else .idle)
      (zqc : r'.zqCounter = if wantsZqcs c r then 1 else 0)

inductive DoZqcsEdge (c : Refresher.Cfg) (r r' : Refresher.State) : Prop
  | run (busy : r.zqCounter ≠ 0) (fsm : r'.fsm = .doZqcs)
      (zqc : r'.zqCounter = if r.zqCounter = c.tRP + c.tZQCS.getD 0 then 0 else r.zqCounter + 1)
  | done (rest : r.zqCounter = 0) (fsm : r'.fsm = .idle)

section
variable {c : Refresher.Cfg} {r : Refresher.State} {pd : Bool} (hwf : WF c) (h : Inv c r pd) (ready : Bool)
include hwf h

theorem doRefresh_step (hexd : r.exCounter = 0 → r.exDone = true) (hfs : r.fsm = .doRefresh) :
    DoRefreshEdge c r (Refresher.step c r ready) := by
  have hrp := hwf.tRP
  have he := h.edge hwf ready
  have hf := RefresherInv.step_fsm c r ready
  have hsq := step_seqCount c r ready
  have hex := he.ex
  have hzq := he.zq
  rw [show exStart r ready = (r.seqCount != 0) by simp [exStart, hfs]] at hex
  rw [h.zqRest (by simp [hfs])] at hzq
  simp only [RefresherInv.fsmNext, hfs] at hf hsq
  by_cases h0 : r.exCounter = 0
  · have hd := hexd h0
    by_cases hs : r.seqCount = 0
    · refine .last h0 hs ?_ ?_ <;> simp [hf, hzq, zqStart, seqDone, hfs, hd, hs]
      omega
    · refine .next h0 hs ?_ ?_ ?_ ?_ <;> simp [hf, hsq, hex, zqStart, seqDone, hd, h0, hs]
      omega
  · have hd : r.exDone = false := Bool.eq_false_iff.mpr fun hd => h0 (h.exDone0 hd)
    refine .run h0 ?_ ?_ ?_ ?_ <;> simp [hf, hsq, hex, zqStart, seqDone, hd, h0]

theorem waitBm_step (hfs : r.fsm = .waitBm) : WaitBmEdge c (Refresher.step c r ready) ready := by
  have hf := RefresherInv.step_fsm c r ready
  simp only [RefresherInv.fsmNext, hfs] at hf
  cases ready
  · exact .wait rfl hf
  · have hrp := hwf.tRP
    have hex : (Refresher.step c r true).exCounter = 1 := by
      simp [(h.edge hwf true).ex, (h.exRest (Or.inr hfs)).1, exStart, hfs]; omega
    have hsq : (Refresher.step c r true).seqCount = c.postponing - 1 := by simp [step_seqCount, hfs]
    exact .start rfl hf hex hsq (Wd_start hwf.post hex hsq)

theorem doZqcs_step (hzqd : r.zqCounter = 0 → r.zqDone = true) (hfs : r.fsm = .doZqcs) :
    DoZqcsEdge c r (Refresher.step c r ready) := by
  have hf := RefresherInv.step_fsm c r ready
  simp only [RefresherInv.fsmNext, hfs] at hf
  by_cases h0 : r.zqCounter = 0
  · exact .done h0 (by simp [hf, hzqd h0])
  · have hd : r.zqDone = false := Bool.eq_false_iff.mpr fun hd => h0 (h.zqDone0 hd)
    exact .run h0 (by simp [hf, hd]) (by simp [(h.edge hwf ready).zq, h0])

theorem exDone_step (hexd : r.fsm = .doRefresh → r.exCounter = 0 → r.exDone = true) (hfs' : (Refresher.step c r ready).fsm = .doRefresh)
    (hc0 : (Refresher.step c r ready).exCounter = 0) : (Refresher.step c r ready).exDone = true := by
  rw [step_exCounter] at hc0
  rw [step_exDone]
  rcases tl_rest _ _ _ (by have := hwf.tRP; omega) h.cntLe hc0 with hd | ⟨hc, hs⟩
  · exact hd
  · -- at rest and not started: the FSM is not in DO-REFRESH afterwards
    simp only [exStart, Bool.or_eq_false_iff, Bool.and_eq_false_iff, bne_eq_false_iff_eq, beq_eq_false_iff_ne] at hs
    rcases doRefresh_pred c r ready hfs' with ⟨hw, hr⟩ | ⟨hd, hsd⟩
    · simp [hw, hr] at hs
    · simp [seqDone, hexd hd hc, hs.2] at hsd

theorem zqDone_step (hzqd : r.fsm = .doZqcs → r.zqCounter = 0 → r.zqDone = true) (hfs' : (Refresher.step c r ready).fsm = .doZqcs)
    (hc0 : (Refresher.step c r ready).zqCounter = 0) : (Refresher.step c r ready).zqDone = true := by
  rcases doZqcs_pred c r ready hfs' with ⟨_, hs'⟩ | ⟨hfs, hd⟩
  · -- just entered: the executer was started, its counter is 1
    rw [(h.edge hwf ready).zq, h.zqRest (by simp [(h.ofZqStart hs').fsm]), hs'] at hc0
    have := hwf.tRP
    simp at hc0; omega
  · cases hz : c.tZQCS with
    | none => exact absurd hfs (h.zqNone hz).2
    | some z =>
      obtain ⟨hzc', hzd'⟩ := step_zq_some c r ready z hz
      rw [hzc'] at hc0
      rw [hzd']
      rcases tl_rest _ _ _ (by have := hwf.tRP; omega) (zcnt_le h hz) hc0 with hd' | ⟨hc, _⟩
      · exact hd'
      · rw [hzqd hfs hc] at hd; cases hd

end

section
variable {c : Refresher.Cfg} {r r' : Refresher.State} {pd : Bool} (h : Inv c r pd)
include h

theorem DoRefreshEdge.wd (e : DoRefreshEdge c r r') :
    (r'.fsm = .doRefresh ∧ Wd c r' + 1 = Wd c r) ∨ (r'.fsm = .idle ∧ Wd c r = 1) ∨
    (r'.fsm = .doZqcs ∧ Wd c r = 1 ∧ zqRem c r' = zqLen c) := by
  cases e with
  | run h0 _ e1 e2 e3 =>
    refine Or.inl ⟨e1, ?_⟩
    have := h.cntLe
    simp only [Wd, e2, e3, M, if_pos h0]
    split <;> simp <;> omega
  | next h0 hs _ e1 e2 e3 =>
    refine Or.inl ⟨e1, ?_⟩
    rw [Wd_start (Nat.pos_of_ne_zero hs) e3 e2]
    simp [Wd, h0]
  | last h0 hs e1 e2 =>
    have hW : Wd c r = 1 := by simp [Wd, hs, h0]
    cases hwz : wantsZqcs c r
    · exact Or.inr (Or.inl ⟨by rw [e1, hwz]; rfl, hW⟩)
    · refine Or.inr (Or.inr ⟨by rw [e1, hwz]; rfl, hW, ?_⟩)
      cases hz : c.tZQCS with
      | none => simp [wantsZqcs, hz] at hwz
      | some z => simp [zqRem, zqLen, hz, e2, hwz]

theorem DoZqcsEdge.rem (hfs : r.fsm = .doZqcs) (e : DoZqcsEdge c r r') :
    (r'.fsm = .doZqcs ∧ zqRem c r' + 1 = zqRem c r) ∨ r'.fsm = .idle := by
  cases hz : c.tZQCS with
  | none => exact absurd hfs (h.zqNone hz).2
  | some z =>
    have := zcnt_le h hz
    cases e with
    | run h0 e1 e2 =>
      refine Or.inl ⟨e1, ?_⟩
      simp only [zqRem, hz, e2, Option.getD_some, if_pos h0]
      split <;> simp <;> omega
    | done _ e1 => exact Or.inr e1

end

theorem rf_step_facts (c : Refresher.Cfg) (hwf : WF c) (r : Refresher.State) (pd ready : Bool) (h : Inv c r pd)
    (hexd : r.fsm = .doRefresh → r.exCounter = 0 → r.exDone = true)
    (hzqd : r.fsm = .doZqcs → r.zqCounter = 0 → r.zqDone = true) :
    (r.fsm = .doRefresh →
      ((Refresher.step c r ready).fsm = .doRefresh ∧ Wd c (Refresher.step c r ready) + 1 = Wd c r) ∨
      ((Refresher.step c r ready).fsm = .idle ∧ Wd c r = 1) ∨
      ((Refresher.step c r ready).fsm = .doZqcs ∧ Wd c r = 1 ∧ zqRem c (Refresher.step c r ready) = zqLen c)) ∧
    (r.fsm = .waitBm → (ready = true → (Refresher.step c r ready).fsm = .doRefresh ∧ Wd c (Refresher.step c r ready) = c.postponing * M c) ∧
      (ready = false → (Refresher.step c r ready).fsm = .waitBm)) ∧
    (r.fsm = .idle → (Refresher.step c r ready).fsm = .idle ∨ ((Refresher.step c r ready).fsm = .waitBm ∧ r.reqO = true)) ∧
    ((Refresher.step c r ready).fsm = .doRefresh → (Refresher.step c r ready).exCounter = 0 → (Refresher.step c r ready).exDone = true) :=
  ⟨fun hfs => (doRefresh_step hwf h ready (hexd hfs) hfs).wd h,
    fun hfs => by
      cases waitBm_step hwf h ready hfs with
      | wait hr e => subst hr; exact ⟨nofun, fun _ => e⟩
      | start hr e _ _ wd => subst hr; exact ⟨fun _ => ⟨e, wd⟩, nofun⟩,
    fun hfs => by rw [idle_step c r ready hfs]; cases c.withRefresh <;> cases r.reqO <;> simp,
    exDone_step hwf h ready hexd⟩

theorem rf_zq_facts (c : Refresher.Cfg) (hwf : WF c) (r : Refresher.State) (pd ready : Bool) (h : Inv c r pd)
    (hzqd : r.fsm = .doZqcs → r.zqCounter = 0 → r.zqDone = true) :
    (r.fsm = .doZqcs →
      ((Refresher.step c r ready).fsm = .doZqcs ∧ zqRem c (Refresher.step c r ready) + 1 = zqRem c r) ∨
      (Refresher.step c r ready).fsm = .idle) ∧
    ((Refresher.step c r ready).fsm = .doZqcs → (Refresher.step c r ready).zqCounter = 0 → (Refresher.step c r ready).zqDone = true) :=
  ⟨fun hfs => (doZqcs_step hwf h ready (hzqd hfs) hfs).rem h hfs, zqDone_step hwf h ready hzqd⟩

open Controller CtlInv CtlLive

/-- cycles until the refresher is idle again (upper bound) -/
def epi (c : Controller.Cfg) (s : Controller.State) (w : Nat → Nat) : Nat :=
  match s.rf.fsm with
  | .idle => 0
  | .waitBm => (if s.fsm = .refresh then 0 else psi c s w) + 1 + c.rf.postponing * M c.rf + zqLen c.rf
  | .doRefresh => Wd c.rf s.rf + zqLen c.rf
  | .doZqcs => zqRem c.rf s.rf

/-- ghost waiting times of `CtlLive.LInv`: followed while the refresher waits, reset otherwise -/
def wG (c : Controller.Cfg) (s : Controller.State) (ins : Array BankIn) (w : Nat → Nat) : Nat → Nat :=
  if s.rf.fsm = .waitBm ∧ s.fsm ≠ .refresh then wStep c s ins w else fun _ => 0

/-- the configuration leaves room for one refresh episode between two requests of the postponer -/
def Budget (c : Controller.Cfg) : Prop :=
  psiMax c + 2 + c.rf.postponing * M c.rf + zqLen c.rf ≤ c.rf.postponing * c.rf.tREFI

theorem budgetCheck_sound (c : Controller.Cfg) (h : budgetCheck c = true) : Budget c := by
  simpa [budgetCheck, Budget] using h

/-- what `Budget` leaves over: an episode is finished this many cycles before the next request -/
def slack (c : Controller.Cfg) : Nat :=
  c.rf.postponing * c.rf.tREFI - (psiMax c + 2 + c.rf.postponing * M c.rf + zqLen c.rf)

theorem Budget.add_slack {c : Controller.Cfg} (hb : Budget c) :
    psiMax c + 2 + c.rf.postponing * M c.rf + zqLen c.rf + slack c = c.rf.postponing * c.rf.tREFI := by
  unfold Budget at hb; simp only [slack]; omega

/-- "no request is lost": `lost` is the claim, `main` carries it (`epi`, with `slack` to spare while an episode runs, stays below
`Tr`); `exd`, `zqd` are the converses of `Inv.exDone0`, `Inv.zqDone0` in the executer's own state -/
structure NL (c : Controller.Cfg) (s : Controller.State) (g : Ghost) (w : Nat → Nat) : Prop where
  cinv : CInv c s g
  mok : MOk c s
  linv : s.rf.fsm = .waitBm → s.fsm ≠ .refresh → LInv c s w
  exd : s.rf.fsm = .doRefresh → s.rf.exCounter = 0 → s.rf.exDone = true
  zqd : s.rf.fsm = .doZqcs → s.rf.zqCounter = 0 → s.rf.zqDone = true
  rng : s.rf.postCount < c.rf.postponing ∧ s.rf.timerCount < c.rf.tREFI
  req : s.rf.reqO = true → Tr c.rf s.rf = c.rf.postponing * c.rf.tREFI
  main : epi c s w + (if s.rf.fsm = .idle then 0 else slack c) ≤ Tr c.rf s.rf
  lost : s.rf.reqO = true → s.rf.fsm = .idle

theorem NL.tr_le {c : Controller.Cfg} {s : Controller.State} {g : Ghost} {w : Nat → Nat} (h : NL c s g w) :
    Tr c.rf s.rf ≤ c.rf.postponing * c.rf.tREFI := by
  have := Nat.mul_le_mul_right c.rf.tREFI h.rng.1
  rw [Nat.succ_mul] at this
  have := h.rng.2
  simp only [Tr]; omega

section
variable {c : Controller.Cfg} {s : Controller.State} {g : Ghost} {w : Nat → Nat} (h : NL c s g w) (hwf : CtlInv.WF c)
  (ins : Array BankIn)
include h

theorem NL.trEdge : TrEdge c.rf s.rf (Controller.step c s ins).1.rf :=
  tr_step c.rf s.rf (s.fsm == .refresh) h.rng.1 h.rng.2

include hwf

theorem NL.waitBmEdge (hfs : s.rf.fsm = .waitBm) : WaitBmEdge c.rf (Controller.step c s ins).1.rf (s.fsm == .refresh) :=
  waitBm_step hwf.rf h.cinv.rf _ hfs

theorem NL.doRefreshEdge (hfs : s.rf.fsm = .doRefresh) : DoRefreshEdge c.rf s.rf (Controller.step c s ins).1.rf :=
  doRefresh_step hwf.rf h.cinv.rf _ (h.exd hfs) hfs

theorem NL.doZqcsEdge (hfs : s.rf.fsm = .doZqcs) : DoZqcsEdge c.rf s.rf (Controller.step c s ins).1.rf :=
  doZqcs_step hwf.rf h.cinv.rf _ (h.zqd hfs) hfs

end

theorem Wd_pos (c : Refresher.Cfg) (r : Refresher.State) : 1 ≤ Wd c r := by simp only [Wd]; omega
theorem zqRem_pos (c : Refresher.Cfg) (r : Refresher.State) (pd : Bool) (h : Inv c r pd) (hfs : r.fsm = .doZqcs) : 1 ≤ zqRem c r := by
  cases hz : c.tZQCS with
  | none => exact absurd hfs (h.zqNone hz).2
  | some z => simp only [zqRem, hz]; omega

theorem epi_zero (c : Controller.Cfg) (s : Controller.State) (pd : Bool) (w : Nat → Nat) (h : Inv c.rf s.rf pd) (h0 : epi c s w = 0) :
    s.rf.fsm = .idle := by
  cases hfs : s.rf.fsm with
  | idle => rfl
  | waitBm => simp only [epi, hfs] at h0; omega
  | doRefresh => simp only [epi, hfs, Wd] at h0; omega
  | doZqcs => have := zqRem_pos c.rf s.rf pd h hfs; simp only [epi, hfs] at h0; omega

theorem epi_dec (c : Controller.Cfg) (hwf : CtlInv.WF c) (s : Controller.State) (g : Ghost) (w : Nat → Nat)
    (ins : Array BankIn) (h : NL c s g w) (hni : s.rf.fsm ≠ .idle) :
    epi c (Controller.step c s ins).1 (wG c s ins w) + 1 ≤ epi c s w := by
  cases hfs : s.rf.fsm with
  | idle => exact absurd hfs hni
  | waitBm =>
    cases h.waitBmEdge hwf ins hfs with
    | start hr e1 _ _ e2 => simp only [epi, e1, e2, hfs, eq_of_beq hr, if_true]; omega
    | wait hr e1 =>
      have hmr := ne_of_beq_false hr
      have hwg : wG c s ins w = wStep c s ins w := by simp [wG, hfs, hmr]
      have hp1 := psi_pos c s w
      simp only [epi, e1, hwg, hfs, hmr, if_false]
      rcases live_step c s ins w (h.linv hfs hmr) hfs hmr with hr | ⟨_, _, hd⟩
      · simp only [hr, if_true]; omega
      · split <;> omega
  | doRefresh =>
    rcases (h.doRefreshEdge hwf ins hfs).wd h.cinv.rf with
      ⟨e1, e2⟩ | ⟨e1, e2⟩ | ⟨e1, e2, e3⟩ <;> simp only [epi, e1, hfs] <;> omega
  | doZqcs =>
    have := zqRem_pos c.rf s.rf g.pd h.cinv.rf hfs
    rcases (h.doZqcsEdge hwf ins hfs).rem h.cinv.rf hfs with
      ⟨e1, e2⟩ | e1 <;> simp only [epi, e1, hfs] <;> omega

/-- a running episode has `epi ≤ Tr = 1` (`NL.main`), and `epi` falls -/
theorem req_finds_idle (c : Controller.Cfg) (hwf : CtlInv.WF c) (hb : Budget c) (s : Controller.State) (g : Ghost) (w : Nat → Nat)
    (ins : Array BankIn) (h : NL c s g w) {pd : Bool} (hI : Inv c.rf (Controller.step c s ins).1.rf pd)
    (htr : Tr c.rf s.rf = 1) : (Controller.step c s ins).1.rf.fsm = .idle := by
  have hm := h.main
  by_cases hi : s.rf.fsm = .idle
  · rw [step_rf, idle_step _ _ _ hi]
    cases hrq : s.rf.reqO
    · simp
    · have := h.req hrq; have := hb.add_slack; omega
  · have := epi_dec c hwf s g w ins h hi
    exact epi_zero c _ _ (wG c s ins w) hI (by omega)

theorem nl_step (c : Controller.Cfg) (hwf : CtlInv.WF c) (hb : Budget c) (s : Controller.State) (g : Ghost) (w : Nat → Nat)
    (ins : Array BankIn) (hins : InsOk c ins) (h : NL c s g w) :
    NL c (Controller.step c s ins).1 (gNext c s g ins) (wG c s ins w) := by
  have hci' := (cinv_step c hwf s g ins hins h.cinv).1
  have hk' := mok_step c s ins h.mok
  have hT := h.trEdge ins
  have hdec := epi_dec c hwf s g w ins h
  have hm := h.main
  have hbs := hb.add_slack
  have hlost' := req_finds_idle c hwf hb s g w ins h hci'.rf
  refine {
    cinv := hci', mok := hk', linv := fun hw' hnr' => ?_, exd := exDone_step hwf.rf h.cinv.rf _ h.exd,
    zqd := zqDone_step hwf.rf h.cinv.rf _ h.zqd, rng := hT.rng, req := fun hq => hT.reload (hT.req.mp hq), main := ?_,
    lost := fun hq => hlost' (hT.req.mp hq) }
  · rw [step_rf] at hw'
    rcases waitBm_pred _ _ _ hw' with hi | ⟨hwt, hmr⟩
    · rw [show wG c s ins w = fun _ => 0 by simp [wG, hi]]
      exact linv_zero c _ hk'
    · have hmr : s.fsm ≠ .refresh := by simpa using hmr
      rw [show wG c s ins w = wStep c s ins w by simp [wG, hwt, hmr]]
      exact ((live_step c s ins w (h.linv hwt hmr) hwt hmr).resolve_left hnr').1
  · by_cases htr1 : Tr c.rf s.rf = 1
    · simp only [epi, hlost' htr1, if_true]; omega
    · have := hT.dec htr1
      by_cases hi : s.rf.fsm = .idle
      · have e := step_rf c s ins ▸ idle_step c.rf s.rf _ hi
        cases hrq : (c.rf.withRefresh && s.rf.reqO) <;> simp only [hrq, if_true, if_false, Bool.false_eq_true] at e
        · simp only [epi, e, if_true]; omega
        · have := h.req (Bool.and_eq_true_iff.mp hrq).2
          have := psi_le c (Controller.step c s ins).1 (wG c s ins w) hk'
          simp only [epi, e, reduceCtorEq, if_false]
          split <;> omega
      · -- the running episode: `epi` falls with `Tr`
        have := hdec hi
        rw [if_neg hi] at hm
        split <;> omega

theorem nl_init (c : Controller.Cfg) (hwf : CtlInv.WF c) : NL c (Controller.init c) g0 (fun _ => 0) :=
  { cinv := cinv_init c hwf, mok := mok_init c hwf.nbm, linv := nofun, exd := nofun, zqd := nofun, req := nofun,
    lost := fun _ => rfl, main := by simp [epi, Controller.init, Refresher.init],
    rng := by have := hwf.rf.post; have := hwf.rf.phantom; simp [Controller.init, Refresher.init]; omega }

/-- the multiplexer takes an AUTO REFRESH from the refresher in this cycle (it is on the DFI pins one cycle later, C02) -/
def refAcc (c : Controller.Cfg) (s : Controller.State) : Bool :=
  (roOf c s).valid && (s.fsm == .refresh) && s.rf.cas && s.rf.ras && !s.rf.we

/-- the multiplexer takes a ZQ CALIBRATION (short) from the refresher in this cycle -/
def zqAcc (c : Controller.Cfg) (s : Controller.State) : Bool :=
  (roOf c s).valid && (s.fsm == .refresh) && s.rf.we && !s.rf.ras && !s.rf.cas

/-- refreshes the current episode will still issue -/
def owed (c : Refresher.Cfg) (r : Refresher.State) : Nat :=
  match r.fsm with
  | .idle => 0
  | .waitBm => c.postponing
  | .doRefresh => r.seqCount + (if 1 ≤ r.exCounter ∧ r.exCounter ≤ c.tRP + 1 then 1 else 0)
  | .doZqcs => 0

theorem acc_evR (c : Controller.Cfg) (s : Controller.State) :
    (refAcc c s = true ↔ RfTiming.evR c.rf s.rf (s.fsm == .refresh) = some .ref) ∧
    (zqAcc c s = true ↔ RfTiming.evR c.rf s.rf (s.fsm == .refresh) = some .zqc) := by
  simp [refAcc, zqAcc, RfTiming.evR_iff, roOf, and_assoc, and_comm, and_left_comm]

theorem refAcc_iff (c : Controller.Cfg) (hwf : CtlInv.WF c) (s : Controller.State) (g : Ghost) (h : CInv c s g) :
    refAcc c s = true ↔ (s.rf.fsm = .doRefresh ∧ s.rf.exCounter = c.rf.tRP + 1) :=
  (acc_evR c s).1.trans (RfTiming.evR_cases c.rf hwf.rf s.rf g.pd _ h.rf h.rfReady).2.1

theorem owed_step (c : Refresher.Cfg) (hwf : RefresherInv.WF c) (r : Refresher.State) (pd ready : Bool) (h : Inv c r pd)
    (hexd : r.fsm = .doRefresh → r.exCounter = 0 → r.exDone = true) (hwr : c.withRefresh = true)
    (hlost : r.reqO = true → r.fsm = .idle) :
    owed c (Refresher.step c r ready) + (if r.fsm = .doRefresh ∧ r.exCounter = c.tRP + 1 then 1 else 0) =
      owed c r + (if r.reqO then c.postponing else 0) := by
  have hq : r.fsm ≠ .idle → r.reqO = false := fun hni => Bool.eq_false_iff.mpr fun hq => hni (hlost hq)
  cases hfs : r.fsm with
  | idle => cases hq : r.reqO <;> simp [owed, idle_step c r ready hfs, hfs, hq, hwr]
  | waitBm =>
    have hP := hwf.post
    cases waitBm_step hwf h ready hfs with
    | wait _ e => simp [owed, e, hfs, hq (by simp [hfs])]
    | start _ e1 e2 e3 _ => simp [owed, e1, e2, e3, hfs, hq (by simp [hfs])]; omega
  | doRefresh =>
    have hq := hq (by simp [hfs])
    cases doRefresh_step hwf h ready (hexd hfs) hfs with
    | run h0 _ e1 e2 e3 =>
      -- a running execution: it is owed until its REF is taken at `tRP + 1`
      have := hwf.tRFC
      simp only [owed, e1, e2, e3, hfs, hq, true_and]
      by_cases hl : r.exCounter = c.tRP + c.tRFC <;> simp only [hl, if_true, if_false, Bool.false_eq_true] <;> repeat' split
      all_goals omega
    | next h0 hs _ e1 e2 e3 => simp [owed, e1, e2, e3, hfs, hq, h0]; omega
    | last h0 hs e1 _ => cases hwz : wantsZqcs c r <;> simp [owed, e1, hwz, hfs, hq, h0, hs]
  | doZqcs => cases hd : r.zqDone <;> simp [owed, RefresherInv.step_fsm, RefresherInv.fsmNext, hfs, hq (by simp [hfs]), hd]

def refCount (c : Controller.Cfg) : Controller.State → List (Array BankIn) → Nat
  | _, [] => 0
  | s, i :: rest => (if refAcc c s then 1 else 0) + refCount c (Controller.step c s i).1 rest

/-- `refCount` and the final state in one pass, for evaluating a concrete run: `refCount` and `runCtl` side by side evaluate the
trace twice (and `foldl` demands it backwards).  The state is normalised between the cycles (Proofs/Nf), or a long idle prefix is
walked again by every later cycle. -/
def runCount (c : Controller.Cfg) : Controller.State → List (Array BankIn) → Nat → Nat × Controller.State
  | s, [], n => (n, s)
  | s, i :: rest, n => runCount c (Nf.ctl (Controller.step c s i).1) rest (if refAcc c s then n + 1 else n)

theorem runCount_eq (c : Controller.Cfg) (l : List (Array BankIn)) :
    ∀ s n, runCount c s l n = (n + refCount c s l, CtlLive.runCtl c s l) := by
  induction l with
  | nil => intro s n; rfl
  | cons i rest ih =>
    intro s n
    rw [runCount, Nf.ctl_eq, ih, refCount]
    simp only [CtlLive.runCtl, List.foldl_cons]
    split <;> simp <;> omega

theorem refCount_eq_runCount (c : Controller.Cfg) (s : Controller.State) (l : List (Array BankIn)) :
    refCount c s l = (runCount c s l 0).1 := by rw [runCount_eq, Nat.zero_add]
theorem runCtl_eq_runCount (c : Controller.Cfg) (s : Controller.State) (l : List (Array BankIn)) :
    CtlLive.runCtl c s l = (runCount c s l 0).2 := by rw [runCount_eq]

/-- accounting: `n` refreshes issued, `q` requests raised, `t` cycles elapsed -/
structure Acct (c : Controller.Cfg) (s : Controller.State) (n q t : Nat) : Prop where
  cnt : n + owed c.rf s.rf + (if s.rf.reqO then c.rf.postponing else 0) = c.rf.postponing * q
  time : t + Tr c.rf s.rf = (q + 1) * (c.rf.postponing * c.rf.tREFI)
  le : owed c.rf s.rf + (if s.rf.reqO then c.rf.postponing else 0) ≤ c.rf.postponing

theorem acct_init (c : Controller.Cfg) (hwf : CtlInv.WF c) : Acct c (Controller.init c) 0 0 0 := by
  have hP := hwf.rf.post
  have hT := hwf.rf.phantom
  refine ⟨by simp [owed, Controller.init, Refresher.init], ?_, by simp [owed, Controller.init, Refresher.init]⟩
  have := NatBits.pred_mul_add c.rf.tREFI hP
  simp only [Tr, Controller.init, Refresher.init, Nat.zero_add, Nat.one_mul]
  omega

theorem acct_step (c : Controller.Cfg) (hwf : CtlInv.WF c) (hb : Budget c) (hwr : c.rf.withRefresh = true)
    (s : Controller.State) (g : Ghost) (w : Nat → Nat) (ins : Array BankIn) (hins : InsOk c ins) (h : NL c s g w)
    (n q t : Nat) (ha : Acct c s n q t) :
    Acct c (Controller.step c s ins).1 (n + if refAcc c s then 1 else 0) (q + if Tr c.rf s.rf = 1 then 1 else 0) (t + 1) := by
  have h' := nl_step c hwf hb s g w ins hins h
  have hT := h.trEdge ins
  have ho := step_rf c s ins ▸ owed_step c.rf hwf.rf s.rf g.pd (s.fsm == Fsm.refresh) h.cinv.rf h.exd hwr h.lost
  simp only [refAcc_iff c hwf s g h.cinv]
  obtain ⟨hc, htm, hle⟩ := ha
  by_cases htr : Tr c.rf s.rf = 1
  · -- the request finds the refresher idle: nothing owed yet
    have hq' := hT.req.mpr htr
    have := h'.req hq'
    have ho' : owed c.rf (Controller.step c s ins).1.rf = 0 := by simp [owed, h'.lost hq']
    refine ⟨?_, ?_, ?_⟩ <;> simp only [htr, if_true, hq', ho']
    · rw [Nat.mul_add]; omega
    · rw [Nat.add_mul (q + 1)]; omega
    · omega
  · have hq' : (Controller.step c s ins).1.rf.reqO = false := Bool.eq_false_iff.mpr fun hh => htr (hT.req.mp hh)
    have := hT.dec htr
    refine ⟨?_, ?_, ?_⟩ <;> simp only [htr, if_false, hq', Bool.false_eq_true, Nat.add_zero] <;> omega

theorem acct_run (c : Controller.Cfg) (hwf : CtlInv.WF c) (hb : Budget c) (hwr : c.rf.withRefresh = true)
    (inputs : List (Array BankIn)) :
    ∀ s g w n q t, NL c s g w → Acct c s n q t → (∀ ins ∈ inputs, InsOk c ins) →
      ∃ g' w' q', NL c (CtlLive.runCtl c s inputs) g' w' ∧
        Acct c (CtlLive.runCtl c s inputs) (n + refCount c s inputs) q' (t + inputs.length) := by
  induction inputs with
  | nil => intro s g w n q t h ha _; exact ⟨g, w, q, h, ha⟩
  | cons i rest ih =>
    intro s g w n q t h ha hins
    have h' := nl_step c hwf hb s g w i (hins i (by simp)) h
    have ha' := acct_step c hwf hb hwr s g w i (hins i (by simp)) h n q t ha
    obtain ⟨g', w', q', hn', hq'⟩ := ih _ _ _ _ _ _ h' ha' (fun x hx => hins x (by simp [hx]))
    refine ⟨g', w', q', hn', ?_⟩
    simpa only [refCount, List.length_cons, Nat.add_assoc, Nat.add_comm 1, CtlLive.runCtl, List.foldl_cons] using hq'

/-- the number of requests is `t / (P·tREFI)`: the time equation of `Acct` with `1 ≤ Tr ≤ P·tREFI` -/
theorem acct_reachable (c : Controller.Cfg) (hwf : CtlInv.WF c) (hb : Budget c) (hwr : c.rf.withRefresh = true)
    (inputs : List (Array BankIn)) (hins : ∀ ins ∈ inputs, InsOk c ins) :
    ∃ g w, NL c (CtlLive.runCtl c (Controller.init c) inputs) g w ∧
      Acct c (CtlLive.runCtl c (Controller.init c) inputs) (refCount c (Controller.init c) inputs)
        (inputs.length / (c.rf.postponing * c.rf.tREFI)) inputs.length := by
  obtain ⟨g, w, q', hnl, hq'⟩ := acct_run c hwf hb hwr inputs _ _ _ 0 0 0 (nl_init c hwf) (acct_init c hwf) hins
  simp only [Nat.zero_add] at hq'
  refine ⟨g, w, hnl, ?_⟩
  have hTr2 := hnl.tr_le
  have htime := hq'.time
  have hq : inputs.length / (c.rf.postponing * c.rf.tREFI) = q' := by
    rw [Nat.add_mul, Nat.one_mul] at htime
    apply Nat.div_eq_of_lt_le
    · omega
    · rw [Nat.add_mul, Nat.one_mul]; simp only [Tr] at htime; omega
  rw [hq]; exact hq'

/-- the executions not yet started take their full `M` each -/
theorem epi_ge_owed (c : Controller.Cfg) (hwf : CtlInv.WF c) (s : Controller.State) (w : Nat → Nat) (ho : 1 ≤ owed c.rf s.rf) :
    (owed c.rf s.rf - 1) * M c.rf + 1 ≤ epi c s w := by
  have hP := hwf.rf.post
  cases hfs : s.rf.fsm with
  | idle => simp [owed, hfs] at ho
  | doZqcs => simp [owed, hfs] at ho
  | waitBm =>
    simp only [owed, epi, hfs]
    have : (c.rf.postponing - 1) * M c.rf ≤ c.rf.postponing * M c.rf := Nat.mul_le_mul_right _ (by omega)
    omega
  | doRefresh =>
    simp only [owed, epi, hfs, Wd]
    have h1 : (s.rf.seqCount + (if 1 ≤ s.rf.exCounter ∧ s.rf.exCounter ≤ c.rf.tRP + 1 then 1 else 0) - 1) ≤ s.rf.seqCount := by
      split <;> omega
    have := Nat.mul_le_mul_right (M c.rf) h1
    omega

/-- under `Budget`, `postponing·tREFI = slack + (psiMax + 2 + zqLen) + postponing·M`, so `ha` reads: at least
`psiMax + 2 + zqLen + j·M` cycles have passed since the last request.  The proof: `epi + slack ≤ Tr` (`NL.main`) against `epi_ge_owed`. -/
theorem owed_after (c : Controller.Cfg) (hwf : CtlInv.WF c) (hb : Budget c) (s : Controller.State) (g : Ghost) (w : Nat → Nat)
    (h : NL c s g w) (j : Nat) (hj : j ≤ c.rf.postponing)
    (ha : Tr c.rf s.rf + j * M c.rf ≤ slack c + c.rf.postponing * M c.rf) :
    owed c.rf s.rf + (if s.rf.reqO then c.rf.postponing else 0) + j ≤ c.rf.postponing := by
  have hm := h.main
  have hbs := hb.add_slack
  by_cases hi : s.rf.fsm = .idle
  · cases hq : s.rf.reqO
    · simp [owed, hi, hj]
    · have := h.req hq
      omega
  · have hq : s.rf.reqO = false := Bool.eq_false_iff.mpr fun hq => hi (h.lost hq)
    rw [if_neg hi] at hm
    simp only [hq, Bool.false_eq_true, if_false, Nat.add_zero]
    by_cases ho : owed c.rf s.rf = 0
    · omega
    · have := epi_ge_owed c hwf s w (by omega)
      have hlt : (owed c.rf s.rf - 1 + j) * M c.rf < c.rf.postponing * M c.rf := by rw [Nat.add_mul]; omega
      have := Nat.lt_of_mul_lt_mul_right hlt
      omega

theorem epi_le (c : Controller.Cfg) (hb : Budget c) (s : Controller.State) (g : Ghost) (w : Nat → Nat) (h : NL c s g w) :
    epi c s w ≤ psiMax c + 2 + c.rf.postponing * M c.rf + zqLen c.rf := by
  have hmain := h.main
  have hTr := h.tr_le
  have hbs := hb.add_slack
  by_cases hi : s.rf.fsm = .idle
  · simp only [epi, hi]; omega
  · simp only [hi, if_false] at hmain; omega

theorem reach_idle (c : Controller.Cfg) (hwf : CtlInv.WF c) (hb : Budget c) (inputs : List (Array BankIn))
    (s : Controller.State) (g : Ghost) (w : Nat → Nat) (h : NL c s g w) (hins : ∀ ins ∈ inputs, InsOk c ins)
    (hlen : epi c s w ≤ inputs.length) :
    ∃ k, k ≤ epi c s w ∧ (CtlLive.runCtl c s (inputs.take k)).rf.fsm = .idle :=
  Run.reach_within (fun st i => (Controller.step c st i).1) (InsOk c) (fun s _ => s.rf.fsm = .idle)
    (fun n s => ∃ g w, NL c s g w ∧ epi c s w ≤ n)
    (fun s _ ⟨g, w, h, hn⟩ => epi_zero c s g.pd w h.cinv.rf (by omega))
    (fun n s i _ ⟨g, w, h, hn⟩ hi => by
      by_cases hid : s.rf.fsm = .idle
      · exact Or.inl hid
      · have := epi_dec c hwf s g w i h hid
        exact Or.inr ⟨_, _, nl_step c hwf hb s g w i hi h, by omega⟩)
    _ inputs s ⟨g, w, h, Nat.le_refl _⟩ hins hlen

/-- a ZQ calibration is due: the calibration timer has expired (now or earlier) and no calibration was started since -/
def zqDue (r : Refresher.State) : Bool := zqTimerDone r || r.zqPending

theorem zq_due_step (c : Refresher.Cfg) (r : Refresher.State) (ready : Bool) (z : Nat) (hz : c.tZQCS = some z)
    (hd : zqDue r = true) (hns : zqStart c r = false) : zqDue (Refresher.step c r ready) = true := by
  simp only [zqDue, Bool.or_eq_true] at hd ⊢
  -- the pending flag takes over from the timer
  refine Or.inr ?_
  rw [step_zqPending c r ready z hz, hns]
  rcases hd with h | h <;> simp [h]

theorem zqAcc_of (c : Controller.Cfg) (hwf : CtlInv.WF c) (s : Controller.State) (g : Ghost) (h : CInv c s g)
    (hfs : s.rf.fsm = .doZqcs) (hx : s.rf.zqCounter = c.rf.tRP + 1) : zqAcc c s = true :=
  (acc_evR c s).2.mpr
    ((RfTiming.evR_cases c.rf hwf.rf s.rf g.pd _ h.rf h.rfReady).2.2.mpr ⟨hfs, hx⟩)

/-- cycles from a request of the postponer to the ZQC command of its episode, an upper bound: the wait for the bus, the refresh
burst, tRP, and 4 for the state changes on the way -/
def zA (c : Controller.Cfg) : Nat := psiMax c + 1 + c.rf.postponing * M c.rf + c.rf.tRP + 3

/-- bound on the cycles until a due ZQ calibration command is taken by the multiplexer -/
def zpot (c : Controller.Cfg) (s : Controller.State) (w : Nat → Nat) : Nat :=
  match s.rf.fsm with
  | .idle => (if s.rf.reqO then 0 else Tr c.rf s.rf) + zA c
  | .waitBm => (if s.fsm = .refresh then 0 else psi c s w) + 1 + c.rf.postponing * M c.rf + (c.rf.tRP + 2)
  | .doRefresh => Wd c.rf s.rf + (c.rf.tRP + 1)
  | .doZqcs =>
    if 1 ≤ s.rf.zqCounter ∧ s.rf.zqCounter ≤ c.rf.tRP + 1 then c.rf.tRP + 1 - s.rf.zqCounter
    -- the ZQC command is past; a due calibration waits for the rest of this one, at most a request period in IDLE, then `zA`
    else zqRem c.rf s.rf + c.rf.postponing * c.rf.tREFI + zA c + 1

/-- a calibration is due, or its command sequence is already running and the ZQC command is still to come -/
def zD (c : Controller.Cfg) (s : Controller.State) : Prop :=
  zqDue s.rf = true ∨ (s.rf.fsm = .doZqcs ∧ 1 ≤ s.rf.zqCounter ∧ s.rf.zqCounter ≤ c.rf.tRP + 1)

theorem zq_step (c : Controller.Cfg) (hwf : CtlInv.WF c) (hb : Budget c) (hwr : c.rf.withRefresh = true) (z : Nat)
    (hz : c.rf.tZQCS = some z) (s : Controller.State) (g : Ghost) (w : Nat → Nat) (ins : Array BankIn) (hins : InsOk c ins)
    (h : NL c s g w) (hd : zD c s) (hna : zqAcc c s = false) :
    zD c (Controller.step c s ins).1 ∧ zpot c (Controller.step c s ins).1 (wG c s ins w) + 1 ≤ zpot c s w := by
  have h' := nl_step c hwf hb s g w ins hins h
  have hz1 := hwf.rf.tZQ z hz
  -- between the start of an episode and the ZQC command, and after it, `zpot` is `epi` plus a constant
  have hdec := epi_dec c hwf s g w ins h
  have hdue' : ¬ (s.rf.fsm = .doZqcs ∧ 1 ≤ s.rf.zqCounter ∧ s.rf.zqCounter ≤ c.rf.tRP + 1) → zqStart c.rf s.rf = false →
      zD c (Controller.step c s ins).1 :=
    fun hn hs => Or.inl (zq_due_step c.rf s.rf _ z hz (hd.resolve_right hn) hs)
  cases hfs : s.rf.fsm with
  | idle =>
    refine ⟨hdue' (by simp [hfs]) (by simp [zqStart, hfs]), ?_⟩
    have hT := h.trEdge ins
    cases hq : s.rf.reqO with
    | true =>
      have e : (Controller.step c s ins).1.rf.fsm = .waitBm := by simp [step_rf, idle_step _ _ _ hfs, hwr, hq]
      have hle := psi_le c (Controller.step c s ins).1 (wG c s ins w) h'.mok
      simp only [zpot, e, hfs, hq, if_true, zA]
      split <;> omega
    | false =>
      have e : (Controller.step c s ins).1.rf.fsm = .idle := by simp [step_rf, idle_step _ _ _ hfs, hq]
      simp only [zpot, e, hfs, hq, Bool.false_eq_true, if_false]
      split
      · simp only [Tr]; omega
      · next hq' => have := hT.dec fun htr => hq' (hT.req.mpr htr); omega
  | waitBm =>
    refine ⟨hdue' (by simp [hfs]) (by simp [zqStart, hfs]), ?_⟩
    have := hdec (by simp [hfs])
    cases h.waitBmEdge hwf ins hfs with
    | wait _ e | start _ e _ _ _ => simp only [epi, zpot, e, hfs] at this ⊢; omega
  | doRefresh =>
    cases h.doRefreshEdge hwf ins hfs with
    | run _ hns e _ _ | next _ _ hns e _ _ =>
      have := hdec (by simp [hfs])
      refine ⟨hdue' (by simp [hfs]) hns, ?_⟩
      simp only [epi, zpot, e, hfs] at this ⊢; omega
    | last _ _ e1 e2 =>
      have hw : wantsZqcs c.rf s.rf = true := by
        simp only [wantsZqcs, hz, Option.isSome_some, Bool.true_and]; exact hd.resolve_right (by simp [hfs])
      rw [hw, if_pos rfl] at e1 e2
      refine ⟨Or.inr ⟨e1, by omega, by omega⟩, ?_⟩
      simp only [zpot, e1, e2, hfs]
      rw [if_pos ⟨Nat.le_refl 1, by omega⟩]; omega
  | doZqcs =>
    have hns : zqStart c.rf s.rf = false := by simp [zqStart, hfs]
    cases h.doZqcsEdge hwf ins hfs with
    | run h0 e1 e2 =>
      rw [hz, Option.getD_some] at e2
      by_cases hin : 1 ≤ s.rf.zqCounter ∧ s.rf.zqCounter ≤ c.rf.tRP + 1
      · have hne : s.rf.zqCounter ≠ c.rf.tRP + 1 := fun e => by
          rw [zqAcc_of c hwf s g h.cinv hfs e] at hna; cases hna
        rw [if_neg (by omega)] at e2
        have h3 : 1 ≤ s.rf.zqCounter + 1 ∧ s.rf.zqCounter + 1 ≤ c.rf.tRP + 1 := by omega
        refine ⟨Or.inr ⟨e1, by omega, by omega⟩, ?_⟩
        simp only [zpot, e1, e2, hfs, if_pos h3, if_pos hin]; omega
      · have hnin : ¬ (1 ≤ (Controller.step c s ins).1.rf.zqCounter ∧ (Controller.step c s ins).1.rf.zqCounter ≤ c.rf.tRP + 1) := by
          rw [e2]; split <;> omega
        have := hdec (by simp [hfs])
        refine ⟨hdue' (fun a => hin a.2) hns, ?_⟩
        simp only [epi, zpot, e1, hfs, if_neg hin, if_neg hnin] at this ⊢; omega
    | done h0 e1 =>
      -- the next episode begins within a request period
      have := h'.tr_le
      refine ⟨hdue' (fun a => by omega) hns, ?_⟩
      simp only [zpot, e1, hfs, if_neg (show ¬ (1 ≤ s.rf.zqCounter ∧ s.rf.zqCounter ≤ c.rf.tRP + 1) by omega)]
      split <;> omega

theorem zpot_zero (c : Controller.Cfg) (hwf : CtlInv.WF c) (s : Controller.State) (g : Ghost) (w : Nat → Nat) (h : NL c s g w)
    (h0 : zpot c s w = 0) : zqAcc c s = true := by
  cases hfs : s.rf.fsm <;> simp only [zpot, hfs, zA] at h0
  · omega
  · omega
  · have := Wd_pos c.rf s.rf; omega
  · by_cases hin : 1 ≤ s.rf.zqCounter ∧ s.rf.zqCounter ≤ c.rf.tRP + 1
    · rw [if_pos hin] at h0
      exact zqAcc_of c hwf s g h.cinv hfs (by omega)
    · rw [if_neg hin] at h0; omega

theorem reach_zq (c : Controller.Cfg) (hwf : CtlInv.WF c) (hb : Budget c) (hwr : c.rf.withRefresh = true) (z : Nat)
    (hz : c.rf.tZQCS = some z) (inputs : List (Array BankIn)) (s : Controller.State) (g : Ghost) (w : Nat → Nat)
    (h : NL c s g w) (hd : zD c s) (hins : ∀ ins ∈ inputs, InsOk c ins) (hlen : zpot c s w ≤ inputs.length) :
    ∃ k, k ≤ zpot c s w ∧ zqAcc c (CtlLive.runCtl c s (inputs.take k)) = true :=
  Run.reach_within (fun st i => (Controller.step c st i).1) (InsOk c) (fun s _ => zqAcc c s = true)
    (fun n s => ∃ g w, NL c s g w ∧ zD c s ∧ zpot c s w ≤ n)
    (fun s _ ⟨g, w, h, _, hn⟩ => zpot_zero c hwf s g w h (by omega))
    (fun n s i _ ⟨g, w, h, hd, hn⟩ hi => by
      cases ha : zqAcc c s
      · obtain ⟨hd', hdec⟩ := zq_step c hwf hb hwr z hz s g w i hi h hd ha
        exact Or.inr ⟨_, _, nl_step c hwf hb s g w i hi h, hd', by omega⟩
      · exact Or.inl rfl)
    _ inputs s ⟨g, w, h, hd, Nat.le_refl _⟩ hins hlen

def zMax (c : Controller.Cfg) : Nat :=
  2 * (c.rf.postponing * c.rf.tREFI) + zA c + c.rf.tRP + c.rf.tZQCS.getD 0 + 4

theorem zpot_le (c : Controller.Cfg) (z : Nat) (hz : c.rf.tZQCS = some z)
    (s : Controller.State) (g : Ghost) (w : Nat → Nat) (h : NL c s g w) : zpot c s w ≤ zMax c := by
  have hTr := h.tr_le
  have hmain := h.main
  have hpsi := psi_le c s w h.mok
  simp only [zMax, hz, Option.getD_some]
  cases hfs : s.rf.fsm <;> simp only [zpot, hfs, zA]
  · split <;> omega
  · split <;> omega
  · simp only [epi, hfs, reduceCtorEq, if_false] at hmain; omega
  · split
    · omega
    · simp only [zqRem, hz]; split <;> omega

end RefreshRate
