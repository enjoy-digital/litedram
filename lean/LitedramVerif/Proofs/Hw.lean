/-
The blocks of `Model/Hw.lean` as equations: `bitsFor` / `maxBits` give enough bits, so the tXXD timer's reload and count-down
(the first decrement after reset apart: `tx_step_wrap`), the tFAW count and the `timeline` counter's increment do not wrap.
The round-robin arbiter's lemmas stand in Props/C05.lean with the property.
-/
import LitedramVerif.Model.Hw
namespace Hw

theorem lt_two_pow_bitsFor (n : Nat) : n < 2 ^ bitsFor n := by
  unfold bitsFor
  split
  · next h => subst h; decide
  · exact Nat.lt_log2_self

theorem tx_reload_lt (txxd : Nat) : txxd - 1 < 2 ^ maxBits (max txxd 2) := lt_two_pow_bitsFor _ |> Nat.lt_of_le_of_lt (by omega)

/-- the hardware decrement `(k − 1) mod m`, written without negative numbers -/
theorem dec_mod (k m : Nat) (h1 : 1 ≤ k) (hk : k ≤ m) : (k + m - 1) % m = k - 1 := by
  rw [show k + m - 1 = (k - 1) + m by omega, Nat.add_mod_right, Nat.mod_eq_of_lt (by omega)]

theorem dec_bitsFor (n k : Nat) (h0 : k ≠ 0) (hk : k < n) : (k + 2 ^ bitsFor n - 1) % 2 ^ bitsFor n = k - 1 :=
  dec_mod _ _ (by omega) (by have := lt_two_pow_bitsFor n; omega)

theorem tx_step_strobe (txxd : Nat) (s : TX) : TX.step (some txxd) s true = ⟨txxd - 1, txxd - 1 == 0⟩ := by
  simp only [TX.step, if_true, Nat.mod_eq_of_lt (tx_reload_lt txxd)]

theorem tx_step_count (txxd : Nat) (s : TX) (hr : s.ready = false) (h1 : 1 ≤ s.count) (hle : s.count ≤ 2 ^ maxBits (max txxd 2)) :
    TX.step (some txxd) s false = ⟨s.count - 1, decide (s.count = 1)⟩ := by
  simp [TX.step, hr, dec_mod _ _ h1 hle]

theorem tx_step_wrap (txxd : Nat) (s : TX) (hr : s.ready = false) (h0 : s.count = 0) :
    TX.step (some txxd) s false = ⟨2 ^ maxBits (max txxd 2) - 1, false⟩ := by
  simp [TX.step, hr, h0, Nat.mod_eq_of_lt (Nat.sub_lt (Nat.two_pow_pos _) Nat.one_pos)]

theorem tx_step_ready (t : Option Nat) (s : TX) (hr : s.ready = true) : TX.step t s false = s := by
  cases t <;> simp [TX.step, hr]

theorem tx_step_count_lt (txxd : Nat) (s : TX) (v : Bool) (h : s.count < 2 ^ maxBits (max txxd 2)) :
    (TX.step (some txxd) s v).count < 2 ^ maxBits (max txxd 2) := by
  simp only [TX.step]
  split
  · exact Nat.mod_lt _ (Nat.two_pow_pos _)
  · split
    · exact Nat.mod_lt _ (Nat.two_pow_pos _)
    · exact h

theorem tf_step_window (f : Nat) (s : TF) (v : Bool) : (TF.step (some f) s v).window = (v :: s.window).take f := rfl

theorem tf_step_ready_eq (f : Nat) (s : TF) (v : Bool) :
    (TF.step (some f) s v).ready =
      if s.count % 2 ^ maxBits (max f 2) < 4 then (if s.count % 2 ^ maxBits (max f 2) == 3 then !v else true) else s.ready := rfl

theorem tf_step_ready (t : Option Nat) (s : TF) (hr : s.ready = true) : (TF.step t s false).ready = true := by
  cases t with
  | none => exact hr
  | some f => rw [tf_step_ready_eq, hr]; split <;> simp

/-- for `tfaw ≥ 5` the count register is wide enough for the at most four activates the gate lets in -/
theorem tf_count_mod (tfaw n : Nat) (h5 : 5 ≤ tfaw) (hn : n ≤ 4) : n % 2 ^ maxBits (max tfaw 2) = n :=
  Nat.mod_eq_of_lt (Nat.lt_of_le_of_lt (by omega) (lt_two_pow_bitsFor (max tfaw 2 - 1)))

theorem count_take_le (n : Nat) (l : List Bool) : ((l.take n).filter id).length ≤ (l.filter id).length :=
  ((List.take_sublist n l).filter id).length_le

theorem fires_pos (off cnt : Nat) (tr : Bool) (h : off ≠ 0) : timelineFires off cnt tr = (cnt == off) := by
  simp [timelineFires, beq_false_of_ne h]

theorem fires_zero (cnt : Nat) (tr : Bool) : timelineFires 0 cnt tr = (tr && cnt == 0) := by
  simp [timelineFires]

/-- `x &&& (x+1) = 0` (the test `timeline` uses for "wraps naturally") means `x + 1` is a power of two -/
theorem succ_pow_of_and_succ (L : Nat) (hL : L ≠ 0) (hw : L &&& (L + 1) = 0) : L + 1 = 2 ^ (L.log2 + 1) := by
  have hlo := Nat.log2_self_le hL
  have hhi := @Nat.lt_log2_self L
  refine Decidable.byContradiction fun hlt => ?_
  have hlt' : L + 1 < 2 ^ (L.log2 + 1) := by omega
  have hlog : (L + 1).log2 = L.log2 := (Nat.log2_eq_iff (by omega)).mpr ⟨by omega, hlt'⟩
  have hbit : L.testBit L.log2 = true := Nat.testBit_log2 hL
  have hbit2 : (L + 1).testBit L.log2 = true := by
    have := Nat.testBit_log2 (n := L + 1) (by omega)
    rwa [hlog] at this
  have := congrArg (fun x => x.testBit L.log2) hw
  simp [hbit, hbit2] at this

/-- at its last event the counter returns to 0 (by the explicit reset, or by natural overflow) -/
theorem tl_last (L : Nat) (tr : Bool) (hL : L ≠ 0) : timelineStep L L tr = 0 := by
  unfold timelineStep
  by_cases hw : (L &&& (L + 1)) = 0
  · have hpow := succ_pow_of_and_succ L hL hw
    have hmb : maxBits (L + 1) = L.log2 + 1 := by simp [maxBits, bitsFor, hL]
    have e : ((L &&& (L + 1)) == 0) = true := by simpa using hw
    have hL' : (L != 0) = true := by simpa using hL
    simp only [e, Bool.not_true, Bool.false_and, Bool.false_eq_true, if_false, hL', if_true, hmb]
    rw [hpow, Nat.mod_self]
  · simp [beq_false_of_ne hw]

theorem tl_zero (L : Nat) (tr : Bool) (hL : L ≠ 0) : timelineStep L 0 tr = if tr then 1 else 0 := by
  cases tr <;> simp [timelineStep, beq_false_of_ne hL.symm]

theorem tl_mid (L cnt : Nat) (tr : Bool) (h0 : cnt ≠ 0) (hl : cnt < L) : timelineStep L cnt tr = cnt + 1 := by
  have hb := lt_two_pow_bitsFor L
  have hmb : maxBits (L + 1) = bitsFor L := by simp [maxBits]
  have e : (cnt == L) = false := beq_false_of_ne (by omega)
  have e0 : (cnt != 0) = true := by simpa using h0
  simp only [timelineStep, e, Bool.and_false, Bool.false_eq_true, if_false, e0, if_true, hmb]
  exact Nat.mod_eq_of_lt (by omega)

theorem tl_next (L cnt : Nat) (tr : Bool) (hL : L ≠ 0) (hle : cnt ≤ L) :
    timelineStep L cnt tr = if cnt = L then 0 else if cnt = 0 then (if tr then 1 else 0) else cnt + 1 := by
  split
  · next h => subst h; exact tl_last _ _ hL
  · next h =>
    split
    · next h0 => subst h0; exact tl_zero _ _ hL
    · next h0 => exact tl_mid _ _ _ h0 (by omega)

theorem tl_next_le (L cnt : Nat) (tr : Bool) (hL : L ≠ 0) (hle : cnt ≤ L) :
    (if cnt = L then 0 else if cnt = 0 then (if tr then 1 else 0) else cnt + 1) ≤ L := by
  split
  · omega
  · split
    · split
      · exact Nat.pos_of_ne_zero hL
      · omega
    · omega

theorem tl_rest (L cnt : Nat) (tr : Bool) (hL : L ≠ 0) (hle : cnt ≤ L) (h0 : timelineStep L cnt tr = 0) :
    timelineFires L cnt tr = true ∨ (cnt = 0 ∧ tr = false) := by
  rw [tl_next _ _ _ hL hle] at h0
  rw [fires_pos _ _ _ hL]
  by_cases hl : cnt = L
  · exact Or.inl (by simp [hl])
  · by_cases hc : cnt = 0
    · cases tr <;> simp_all
    · simp [hl, hc] at h0

end Hw
