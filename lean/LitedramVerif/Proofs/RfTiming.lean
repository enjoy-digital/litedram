/-
The refresher's timelines against the ages of `Spec/TimingMon.lean`: REF / ZQC are only issued tRP after the precharge-all, tRFC
after the previous REF and tZQCS after the previous calibration (`rtinv_step`).  The invariant bounds the ages from below by the
counters, so that tRP / tRFC / tZQCS have elapsed when the refresh episode ends.
-/
import LitedramVerif.Proofs.RefresherInv
import LitedramVerif.Proofs.RfEvents
import LitedramVerif.Proofs.BmTiming
namespace RfTiming
open Hw Refresher RefresherInv TimingMon BmTiming

/-- the local `upd` of `TimingMon.advance` -/
def upd (a : Age) (hit : Bool) : Age := if hit then some 1 else tick a

/-- one executer timeline (precharge-all shown at counter 1, its command at `tRP + 1`, last event at `tRP + t`) against two ages
of the monitor: `p` since the precharge-all, `x` since the command.  `on`: the refresher FSM is in the state in which this
executer's commands are accepted (the reset-time phantom runs of the refresh executer happen in IDLE and restart no age). -/
structure TlAges (tRP t cnt : Nat) (on : Prop) (done : Bool) (p x : Age) : Prop where
  preaRun : on → 2 ≤ cnt → ok p (cnt - 1) = true
  cmdOld : ¬ (on ∧ tRP + 2 ≤ cnt) → ok x t = true
  cmdRun : on → tRP + 2 ≤ cnt → ok x (cnt - tRP - 1) = true
  preaDone : on → done = true → ok p (tRP + t) = true

/-- `hc`: the counter as `tl_next` gives it; `hin`, `hout`: the FSM enters `on` only while the counter rests and does not leave it
during a run; `hp2`: apart from this run's precharge-all, `p` is restarted only while the counter rests (by the other executer) -/
theorem tlAges_step {tRP t cnt cnt' : Nat} {tr : Bool} {on on' : Prop} {done done' hp hx : Bool} {p x : Age}
    (hrp : 1 ≤ tRP) (hc : cnt' = if cnt = tRP + t then 0 else if cnt = 0 then (if tr then 1 else 0) else cnt + 1)
    (hd : on' → done' = true → cnt = tRP + t)
    (hin : on' → cnt ≠ 0 → on) (hout : on → cnt ≠ 0 → cnt ≠ tRP + t → on')
    (hp1 : on → cnt = 1 → hp = true) (hp2 : hp = true → cnt ≤ 1)
    (hx1 : hx = true ↔ on ∧ cnt = tRP + 1)
    (h : TlAges tRP t cnt on done p x) :
    TlAges tRP t cnt' on' done' (upd p hp) (upd x hx) := by
  have r1 := h.preaRun; have r2 := h.cmdOld; have r3 := h.cmdRun; have r4 := h.preaDone
  refine ⟨fun ho hc2 => ?_, fun hn => ?_, fun ho hc2 => ?_, fun ho hdn => ?_⟩
  -- `cnt' ≥ 2`: the run continues (`cnt' = cnt + 1`, `on`); `p` was restarted iff `cnt = 1`
  · grind [upd, ok_tick_eq, ok_some]
  -- either no run of ours is past `tRP + 1` (`r2`, one tick), or the run ends here: `cnt = tRP + t` and `r3` gives `t - 1`
  · grind [upd, ok_tick_eq, ok_some, ok_mono]
  · grind [upd, ok_tick_eq, ok_some]
  -- `done'`: the counter was at its last event, so by `r1` the precharge-all is `tRP + t - 1` old
  · grind [upd, ok_tick_eq, ok_some]

structure RTInv (c : Cfg) (s : State) (prea ref zq : Age) : Prop where
  ex : TlAges c.tRP c.tRFC s.exCounter (s.fsm = .doRefresh) s.exDone prea ref
  zq : TlAges c.tRP (c.tZQCS.getD 0) s.zqCounter (s.fsm = .doZqcs) s.zqDone prea zq

theorem rtinv_init (c : Cfg) : RTInv c (init c) none none none := by
  constructor <;> constructor <;> intros <;> rfl

theorem rtinv_step (c : Cfg) (hwf : WF c) (s : State) (pd ready : Bool) (prea ref zq : Age) (hinv : Inv c s pd)
    (h : RTInv c s prea ref zq) (hr : inRef s.fsm = true → ready = true) :
    ((evR c s ready = some .ref ∨ evR c s ready = some .zqc) →
        ok prea c.tRP = true ∧ ok ref c.tRFC = true ∧ ok zq (c.tZQCS.getD 0) = true) ∧
    RTInv c (step c s ready) (upd prea (evR c s ready == some .prea)) (upd ref (evR c s ready == some .ref))
      (upd zq (evR c s ready == some .zqc)) := by
  obtain ⟨ep, er, ez⟩ := evR_cases c hwf s pd ready hinv hr
  have e := hinv.edge hwf ready
  have hrp := hwf.tRP
  refine ⟨?_, ⟨?_, ?_⟩⟩
  · rw [er, ez]
    rintro (⟨hfs, hc⟩ | ⟨hfs, hc⟩)
    · refine ⟨?_, h.ex.cmdOld (by omega), h.zq.cmdOld (by simp [hfs])⟩
      have := h.ex.preaRun hfs (by omega)
      rw [hc] at this; simpa using this
    · refine ⟨?_, h.ex.cmdOld (by simp [hfs]), h.zq.cmdOld (by omega)⟩
      have := h.zq.preaRun hfs (by omega)
      rw [hc] at this; simpa using this
  -- the other executer's precharge-all (the only other restart of `prea`) finds this counter at rest
  · refine tlAges_step (tr := exStart s ready) hrp (hc := e.ex) (hd := fun _ hd => by simpa [e.exDone] using hd)
      (hin := e.exEnter) (hout := fun h0 hne _ => e.exStay h0 hne)
      (hp1 := fun h0 h1 => beq_iff_eq.mpr (ep.mpr (Or.inl ⟨h0, h1⟩))) (hp2 := fun hp => ?_)
      (hx1 := beq_iff_eq.trans er) (h := h.ex)
    rcases ep.mp (beq_iff_eq.mp hp) with ⟨_, h1⟩ | ⟨hfs, _⟩
    · omega
    · have := (hinv.exRest (Or.inl hfs)).1; omega
  · refine tlAges_step (tr := zqStart c s) hrp (hc := e.zq) (hd := fun hfs' hd => ?_)
      (hin := e.zqEnter) (hout := fun h0 hne _ => e.zqStay h0 hne)
      (hp1 := fun h0 h1 => beq_iff_eq.mpr (ep.mpr (Or.inr ⟨h0, h1⟩))) (hp2 := fun hp => ?_)
      (hx1 := beq_iff_eq.trans ez) (h := h.zq)
    · -- DO-ZQCS is only reached with ZQCS configured, where `zqDone` is the last event
      simpa [e.zqDone, e.zqSome hfs'] using hd
    · rcases ep.mp (beq_iff_eq.mp hp) with ⟨hfs, _⟩ | ⟨_, h1⟩
      · have := hinv.zqRest (by simp [hfs]); omega
      · omega

end RfTiming
