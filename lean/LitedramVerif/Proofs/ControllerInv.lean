/-
The inductive invariant of the composed controller model (`Model/Controller.lean`: N bank machines + multiplexer FSM +
refresher) that the C02 top-level theorem rests on: for every bank machine, its belief tied to the reference DRAM bank
(`C02.Inv`, Props/C02.lean); the three FSMs of the refresh handshake tied together.  The environment contract `C02.EnvOK`
under which `C02.bm_step_legal` is proved is discharged here (`env_ok`), so that theorem holds inside the composition.
-/
import LitedramVerif.Props.C02
import LitedramVerif.Proofs.RefresherInv
import LitedramVerif.Proofs.Choosers

namespace CtlInv
open Controller Hw

theorem out_idle (c : Refresher.Cfg) (s : Refresher.State) (h : s.fsm = .idle) :
    (Refresher.out c s).valid = false ∧ (Refresher.out c s).last = false := RefresherInv.out_idle c s h

structure Ghost where
  /-- the reference DRAM bank behind bank machine `i`: its open row, if any -/
  d : Nat → Option Nat
  /-- bank machine `i` has seen the precharge-all of the running refresh episode (`C02.Inv`'s `cleared`) -/
  cl : Nat → Bool
  /-- the precharge-all of the running refresh episode has been accepted -/
  pd : Bool

structure WF (c : Cfg) : Prop where
  nbm : 1 ≤ c.nbm
  rf : RefresherInv.WF c.rf
  /-- the row an ACT carries (`% 2 ^ abits`) is the row the `row` register keeps (`% 2 ^ rowbits`) -/
  hrow : c.bm.abits ≥ c.bm.rowbits

def preaOf (c : Cfg) (s : State) : Bool := RefresherInv.preaAcc c.rf s.rf (s.fsm == .refresh)

/-- in the form `C02.bm_step_legal` and `BmTiming.binv_step` state it; `cmdOfBm_eq` reads it off the request lines -/
def cmdOfBm (c : Cfg) (s : State) (ins : Array BankIn) (i : Nat) : C02.Cmd :=
  let r := BankMachine.step c.bm s.bms[i]! (bmIn c s ins i)
  C02.cmdOf r.1 r.2 (bmReadyOf c s ins i)

def gNext (c : Cfg) (s : State) (g : Ghost) (ins : Array BankIn) : Ghost :=
  { d := fun i => if preaOf c s then none else C02.dramStep (g.d i) (cmdOfBm c s ins i)
    cl := fun i => C02.cleared' s.bms[i]! (BankMachine.step c.bm s.bms[i]! (bmIn c s ins i)).1 (preaOf c s) (g.cl i)
    pd := RefresherInv.pd' c.rf s.rf (s.fsm == .refresh) g.pd }

structure CInv (c : Cfg) (s : State) (g : Ghost) : Prop where
  size : s.bms.size = c.nbm
  bm : ∀ i, i < c.nbm → C02.Inv c.bm s.bms[i]! (g.d i) (g.cl i) ∧ C02.MemOk c.bm s.bms[i]!
  rf : RefresherInv.Inv c.rf s.rf g.pd
  idle : s.rf.fsm = .idle → s.fsm ≠ .refresh ∧ ∀ i, i < c.nbm → (s.bms[i]!).fsm ≠ .refresh
  muxRef : s.fsm = .refresh → ∀ i, i < c.nbm → (s.bms[i]!).fsm = .refresh
  inRef : RefresherInv.inRef s.rf.fsm = true → s.fsm = .refresh
  pdRef : g.pd = true → RefresherInv.inRef s.rf.fsm = true
  pdCl : g.pd = true → ∀ i, i < c.nbm → g.cl i = true

/-- what the crossbar's address slicing gives; with it the row an ACT opens and registers (`rowOf`, truncated to `rowbits`)
is the row the request addresses (`rowFull`) -/
def InsOk (c : Cfg) (ins : Array BankIn) : Prop := ∀ i, i < c.nbm → BankMachine.rowFull c.bm (ins[i]!).addr < 2 ^ c.bm.rowbits

theorem CInv.rfReady {c : Cfg} {s : State} {g : Ghost} (h : CInv c s g) (hi : RefresherInv.inRef s.rf.fsm = true) :
    (s.fsm == .refresh) = true := by simp [h.inRef hi]

theorem preaOf_acc (c : Cfg) (s : State) (h : preaOf c s = true) : (roOf c s).valid = true ∧ s.fsm = .refresh := by
  simp only [preaOf, RefresherInv.preaAcc, Bool.and_eq_true, beq_iff_eq, and_assoc] at h
  exact ⟨h.1, h.2.1⟩

theorem preaOf_false (c : Cfg) (s : State) (h : s.fsm ≠ .refresh) : preaOf c s = false :=
  Bool.eq_false_iff.mpr fun hp => h (preaOf_acc c s hp).2

theorem inRef_of_withdrawn (c : Cfg) (s : State) (g : Ghost) (h : CInv c s g) (i : Nat) (hi : i < c.nbm)
    (hf : (s.bms[i]!).fsm = .refresh) (hv : (roOf c s).valid = false) : RefresherInv.inRef s.rf.fsm = true := by
  have hni : s.rf.fsm ≠ .idle := fun hidle => (h.idle hidle).2 i hi hf
  have hnw : s.rf.fsm ≠ .waitBm := fun hw => by have := (RefresherInv.out_waitBm c.rf s.rf hw).1; unfold roOf at hv; rw [hv] at this; cases this
  cases hfs : s.rf.fsm <;> simp_all [RefresherInv.inRef]

theorem env_ok (c : Cfg) (s : State) (g : Ghost) (ins : Array BankIn) (h : CInv c s g) (i : Nat) (hi : i < c.nbm) :
    C02.EnvOK s.bms[i]! (bmIn c s ins i) (preaOf c s) (g.cl i) := by
  constructor
  · exact fun hp => h.muxRef (preaOf_acc c s hp).2 i hi
  · intro hf hr
    exact Or.inl (h.pdCl (h.rf.novalid_pd (inRef_of_withdrawn c s g h i hi hf hr) hr) i hi)

theorem refresh_of_next_inRef (c : Cfg) (s : State) (g : Ghost) (h : CInv c s g)
    (hi : RefresherInv.inRef (Refresher.step c.rf s.rf (s.fsm == .refresh)).fsm = true) : s.fsm = .refresh := by
  rcases RefresherInv.inRef_pred c.rf s.rf _ hi with ⟨_, hr⟩ | hr
  · simpa using hr
  · exact h.inRef hr

theorem gnext_pd (c : Cfg) (s : State) (g : Ghost) (ins : Array BankIn) (h : CInv c s g) (hp : (gNext c s g ins).pd = true) :
    RefresherInv.inRef (Refresher.step c.rf s.rf (s.fsm == .refresh)).fsm = true ∧ s.fsm = .refresh ∧
      (preaOf c s = false → g.pd = true) := by
  simp only [gNext, RefresherInv.pd', Bool.and_eq_true, Bool.or_eq_true] at hp
  refine ⟨hp.1, refresh_of_next_inRef c s g h hp.1, fun hpa => ?_⟩
  rcases hp.2 with hpd | hpd
  · exact hpd
  · rw [show RefresherInv.preaAcc c.rf s.rf (s.fsm == .refresh) = preaOf c s from rfl, hpa] at hpd; cases hpd

theorem next_refresh (c : Cfg) (s : State) (g : Ghost) (ins : Array BankIn) (h : CInv c s g) (h0 : 0 < c.nbm)
    (hn : fsmNext c s ins = .refresh) : (roOf c s).valid = true ∧ ∀ i, i < c.nbm → (s.bms[i]!).fsm = .refresh := by
  have hol := RefresherInv.out_last_valid c.rf s.rf
  rcases (mux_next_refresh c s ins).mp hn with ⟨hrw, hgo⟩ | ⟨hr, hl⟩
  · -- READ / WRITE hand over when every bank machine grants: the refresher is neither idle nor executing
    have hall := bms_refresh_of_goRefresh c s ins hgo
    refine ⟨hol.2 (fun hi => (h.idle hi).2 0 h0 (hall 0 h0)) ?_, hall⟩
    cases hl : (Refresher.out c.rf s.rf).last
    · rfl
    · have := h.inRef (hol.1 hl).2
      rcases hrw with e | e <;> rw [e] at this <;> cases this
  · exact ⟨hol.2 (fun hi => (h.idle hi).1 hr) hl, h.muxRef hr⟩

theorem cinv_step (c : Cfg) (hwf : WF c) (s : State) (g : Ghost) (ins : Array BankIn) (hins : InsOk c ins)
    (h : CInv c s g) :
    CInv c (step c s ins).1 (gNext c s g ins) ∧
    (∀ i, i < c.nbm → C02.legal c.bm s.bms[i]! (g.d i) (cmdOfBm c s ins i) = true) := by
  have hbm : ∀ i, i < c.nbm →
      C02.legal c.bm s.bms[i]! (g.d i) (cmdOfBm c s ins i) = true ∧
      C02.Inv c.bm (BankMachine.step c.bm s.bms[i]! (bmIn c s ins i)).1 ((gNext c s g ins).d i) ((gNext c s g ins).cl i) := by
    intro i hi
    exact C02.bm_step_legal c.bm s.bms[i]! (g.d i) (g.cl i) (bmIn c s ins i) (preaOf c s)
      (env_ok c s g ins h i hi) (h.bm i hi).2.2 hwf.hrow (h.bm i hi).1
  have hnext := next_refresh c s g ins h hwf.nbm
  refine ⟨{ size := step_bms_size c s ins, bm := ?bm, rf := ?rf, idle := ?idle, muxRef := ?muxRef, inRef := ?inRef, pdRef := ?pdRef, pdCl := ?pdCl },
    fun i hi => (hbm i hi).1⟩
  case bm =>
    intro i hi
    rw [step_bms c s ins i hi]
    exact ⟨(hbm i hi).2, C02.memok_step c.bm _ _ (h.bm i hi).2 (hins i hi)⟩
  case rf =>
    rw [step_rf]; exact RefresherInv.inv_step c.rf hwf.rf s.rf g.pd (s.fsm == .refresh) h.rf h.rfReady
  case idle =>
    rw [step_rf, step_fsm]
    intro hidle
    have hv := RefresherInv.next_idle c.rf s.rf _ hidle
    constructor
    · intro hn
      have := (hnext hn).1
      unfold roOf at this; rw [hv] at this; cases this
    · intro i hi
      rw [Ne, step_bms_refresh c s ins i hi, roOf, hv]
      exact fun hc => nomatch hc.1
  case muxRef =>
    rw [step_fsm]
    intro hn i hi
    obtain ⟨hv, hall⟩ := hnext hn
    exact (step_bms_refresh c s ins i hi).mpr ⟨hv, Or.inr (hall i hi)⟩
  case inRef =>
    rw [step_rf, step_fsm]
    intro hi
    exact (mux_next_refresh c s ins).mpr (Or.inr ⟨refresh_of_next_inRef c s g h hi, (RefresherInv.next_inRef c.rf s.rf _ hi).2⟩)
  case pdRef => rw [step_rf]; exact fun hp => (gnext_pd c s g ins h hp).1
  case pdCl =>
    intro hp i hi
    obtain ⟨hin, hfr, hor⟩ := gnext_pd c s g ins h hp
    have hb := h.muxRef hfr i hi
    have hb' := (step_bms_refresh c s ins i hi).mpr ⟨(RefresherInv.next_inRef c.rf s.rf _ hin).1, Or.inr hb⟩
    rw [step_bms c s ins i hi] at hb'
    simp only [gNext, C02.cleared', hb, hb', beq_self_eq_true, Bool.true_and, Bool.or_eq_true]
    cases hpa : preaOf c s
    · exact Or.inl (h.pdCl (hor hpa) i hi)
    · exact Or.inr rfl

theorem rf_cmd_legal (c : Cfg) (s : State) (g : Ghost) (h : CInv c s g) (hv : (roOf c s).valid = true) (hf : s.fsm = .refresh) :
    RefresherInv.regsAre c.rf s.rf .none ∨ RefresherInv.regsAre c.rf s.rf .prea ∨
      ((RefresherInv.regsAre c.rf s.rf .ref ∨ RefresherInv.regsAre c.rf s.rf .zqc) ∧ ∀ i, i < c.nbm → g.d i = none) := by
  rcases RefresherInv.acc_cases c.rf s.rf g.pd h.rf hv with h1 | h1 | ⟨hpd, h1⟩
  · exact Or.inl h1
  · exact Or.inr (Or.inl h1)
  · refine Or.inr (Or.inr ⟨h1, fun i hi => ?_⟩)
    have hinv := (h.bm i hi).1
    have hfs := h.muxRef hf i hi
    have hcl := h.pdCl hpd i hi
    simp only [C02.Inv, hfs] at hinv
    exact hinv hcl

def g0 : Ghost := { d := fun _ => none, cl := fun _ => false, pd := false }

theorem cinv_init (c : Cfg) (hwf : WF c) : CInv c (init c) g0 := by
  have hb := init_bms c
  exact
    { size := by simp [init]
      bm := fun i hi => by
        rw [hb i hi]
        exact ⟨by simp [C02.Inv, BankMachine.State.init, g0], C02.memok_init c.bm⟩
      rf := RefresherInv.inv_init c.rf hwf.rf
      idle := fun _ => ⟨by simp [init], fun i hi => by rw [hb i hi]; simp [BankMachine.State.init]⟩
      muxRef := fun hc => by simp [init] at hc
      inRef := fun hc => by simp [init, Refresher.init, RefresherInv.inRef] at hc
      pdRef := fun hc => by simp [g0] at hc
      pdCl := fun hc => by simp [g0] at hc }

end CtlInv
