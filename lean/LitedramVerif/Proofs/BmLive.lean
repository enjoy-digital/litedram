/-
Bounded liveness of one bank machine under a pending refresh request: on a clock edge with `refresh_req` held either `refresh_gnt`
is up or the explicit bound `phi` goes down by at least one (`phi_step`).  `rem`: cycles until a tXXD timer that receives no
further strobe is ready (from reset the counter first wraps).
-/
import LitedramVerif.Proofs.BmStep
import LitedramVerif.Proofs.Hw
import LitedramVerif.Model.LiveBound
namespace BmLive
open Hw BankMachine

def rem (t : Option Nat) (tx : TX) : Nat :=
  match t with
  | none => 0
  | some x => if tx.ready then 0 else if tx.count = 0 then 2 ^ maxBits (max x 2) else tx.count

def TxOk (t : Option Nat) (tx : TX) : Prop :=
  match t with
  | none => tx.ready = true
  | some x => tx.count < 2 ^ maxBits (max x 2)

theorem txok_init (t : Option Nat) : TxOk t (TX.init t) := by
  cases t <;> simp [TxOk, TX.init]
  exact Nat.two_pow_pos _

theorem txok_step (t : Option Nat) (tx : TX) (v : Bool) (h : TxOk t tx) : TxOk t (TX.step t tx v) := by
  cases t with
  | none => exact h
  | some x => exact tx_step_count_lt x tx v h

theorem rem_zero (t : Option Nat) (tx : TX) (h : TxOk t tx) : rem t tx = 0 ↔ tx.ready = true := by
  cases t with
  | none => simpa [rem, TxOk] using h
  | some x =>
    have hp : 0 < 2 ^ maxBits (max x 2) := Nat.two_pow_pos _
    simp only [rem]
    cases hr : tx.ready <;> simp
    split <;> omega

theorem rem_ne_zero {t : Option Nat} {tx : TX} (h : TxOk t tx) (hr : tx.ready = false) : rem t tx ≠ 0 :=
  mt (rem_zero t tx h).mp (Bool.eq_false_iff.mp hr)

theorem ready_eq (t : Option Nat) (tx : TX) (h : TxOk t tx) : tx.ready = decide (rem t tx = 0) := by
  have := rem_zero t tx h
  cases hr : tx.ready <;> simp_all

theorem rem_idle (t : Option Nat) (tx : TX) (h : TxOk t tx) : rem t (TX.step t tx false) = rem t tx - 1 := by
  cases hr : tx.ready
  · cases t with
    | none => rw [TxOk, hr] at h; cases h
    | some x =>
      simp only [TxOk] at h
      have h2 : 2 ≤ 2 ^ maxBits (max x 2) :=
        Nat.lt_of_le_of_lt (by omega : 1 ≤ max x 2 - 1) (lt_two_pow_bitsFor (max x 2 - 1))
      by_cases h0 : tx.count = 0
      · -- the counter wraps (only from reset, where it starts at 0 with `ready` low)
        have hne : ¬ 2 ^ maxBits (max x 2) - 1 = 0 := by omega
        simp [rem, tx_step_wrap x tx hr h0, hr, h0, hne]
      · rw [tx_step_count x tx hr (by omega) (by omega)]
        by_cases h1 : tx.count = 1
        · simp [rem, hr, h1]
        · simp [rem, hr, h1, h0]; omega
  · rw [tx_step_ready t tx hr, (rem_zero t tx h).mpr hr]

theorem rem_strobe_opt (t : Option Nat) (tx : TX) : rem t (TX.step t tx true) ≤ t.getD 0 := by
  cases t with
  | none => simp [rem]
  | some x =>
    rw [tx_step_strobe]
    by_cases h1 : x - 1 = 0 <;> simp [rem, h1]

theorem rem_le (t : Option Nat) (tx : TX) (h : TxOk t tx) : rem t tx ≤ remMax t := by
  cases t with
  | none => simp [rem, remMax]
  | some x => simp only [rem, remMax, TxOk] at *; split <;> (try split) <;> omega

structure TOk (c : Cfg) (s : State) : Prop where
  w : TxOk (some c.twtp) s.twtp
  a : TxOk c.tRAS s.tras
  r : TxOk c.tRC s.trc

/-- an upper bound on the cycles until this bank machine grants a pending refresh request; `A` = cycles within which the
multiplexer accepts a command that stays valid, `w` = cycles the current command has been waiting -/
def phi (c : Cfg) (A : Nat) (s : State) (w : Nat) : Nat :=
  let W := rem (some c.twtp) s.twtp
  let Aa := rem c.tRAS s.tras
  let C := rem c.tRC s.trc
  let RAS := c.tRAS.getD 0
  let rest := c.tRCD + 2 + W + RAS             -- from the accepted ACT to the grant
  -- the constants pay for the edges that only move the FSM on: `+ 1` out of a state or a delay chain (nothing here ties a chain's
  -- index to its length, so `tRP - 1 - k` may be 0), `+ 2` out of the tRCD chain and on from REGULAR to REFRESH
  match s.fsm with
  | .refresh => W + Aa
  | .regular => 1 + W + Aa
  | .trcd k => (c.tRCD - 1 - k) + 2 + W + Aa
  | .activate => (if C = 0 then A - w else C + A) + rest
  | .trp k => (c.tRP - 1 - k) + 1 + (C + A + rest)
  | .precharge => (if W + Aa = 0 then A - w else W + Aa + A) + c.tRP + 1 + (C + A + rest)
  | .autoprecharge => W + Aa + 1 + c.tRP + 1 + (C + A + rest)

/-- the wait counter of the acceptance contract -/
def wNext (c : Cfg) (s : State) (i : In) (w : Nat) : Nat :=
  if (BankMachine.step c s i).2.cmdValid && !i.ready then w + 1 else 0

theorem cmdValid_refresh (c : Cfg) (s : State) (i : In) (hr : i.refresh = true) :
    (BankMachine.step c s i).2.cmdValid =
      ((s.fsm == .precharge && s.twtp.ready && s.tras.ready) || (s.fsm == .activate && s.trc.ready)) := by
  rw [BmTiming.step_cmdValid, hr]; simp

open BmTiming in
/-- the tWTP strobe of `step_twtp`: while `refresh_req` is up no CAS is accepted -/
theorem cmdS_refresh_wr (f : St) (rdy bv ro rh ap tw ta tc we : Bool) (row : Nat) :
    (match cmdS f rdy true bv ro rh ap tw ta tc row with | .cas _ => we | _ => false) = false := by
  cases f <;> simp [cmdS]
  case precharge => by_cases h : (tw = true ∧ ta = true) ∧ rdy = true <;> simp [h]
  case activate => by_cases h : tc = true ∧ rdy = true <;> simp [h]

open BmTiming in
theorem cmdS_refresh_act (f : St) (rdy bv ro rh ap tw ta tc : Bool) (row : Nat) :
    (match cmdS f rdy true bv ro rh ap tw ta tc row with | .act _ => true | _ => false) = (f == .activate && tc && rdy) := by
  cases f <;> simp [cmdS]
  case precharge => by_cases h : (tw = true ∧ ta = true) ∧ rdy = true <;> simp [h]
  case activate => by_cases h : tc = true ∧ rdy = true <;> simp [h] <;> simpa using h

open BmTiming in
theorem step_twtp_refresh (c : Cfg) (s : State) (i : In) (hr : i.refresh = true) :
    (BankMachine.step c s i).1.twtp = TX.step (some c.twtp) s.twtp false := by
  rw [step_twtp, step_cmdS, hr]; exact congrArg _ (cmdS_refresh_wr ..)
open BmTiming in
theorem step_tras_refresh (c : Cfg) (s : State) (i : In) (hr : i.refresh = true) :
    (BankMachine.step c s i).1.tras = TX.step c.tRAS s.tras (s.fsm == .activate && s.trc.ready && i.ready) := by
  rw [step_tras, step_cmdS, hr]; exact congrArg _ (cmdS_refresh_act ..)
open BmTiming in
theorem step_trc_refresh (c : Cfg) (s : State) (i : In) (hr : i.refresh = true) :
    (BankMachine.step c s i).1.trc = TX.step c.tRC s.trc (s.fsm == .activate && s.trc.ready && i.ready) := by
  rw [step_trc, step_cmdS, hr]; exact congrArg _ (cmdS_refresh_act ..)

theorem tok_step (c : Cfg) (s : State) (i : In) (h : TOk c s) : TOk c (BankMachine.step c s i).1 :=
  ⟨by rw [BmTiming.step_twtp]; exact txok_step _ _ _ h.w, by rw [BmTiming.step_tras]; exact txok_step _ _ _ h.a,
   by rw [BmTiming.step_trc]; exact txok_step _ _ _ h.r⟩

/-- wait `x` cycles for the timers, then at most `A` (of which `w` are spent) for the multiplexer -/
def head (A x w : Nat) : Nat := if x = 0 then A - w else x + A

theorem head_le (A x w : Nat) : head A x w ≤ x + A := by unfold head; split <;> omega

theorem head_step (A x x' w : Nat) (hw : w < A) (hx : x' ≤ x - 1) :
    head A x' (if x = 0 then w + 1 else 0) + 1 ≤ head A x w := by
  unfold head; split <;> split <;> omega

/-- `phi` as a function of numbers, so that `phiF_step` is arithmetic -/
def phiF (c : Cfg) (A : Nat) (f : St) (W Aa C w : Nat) : Nat :=
  let rest := c.tRCD + 2 + W + c.tRAS.getD 0
  match f with
  | .refresh => W + Aa
  | .regular => 1 + W + Aa
  | .trcd k => (c.tRCD - 1 - k) + 2 + W + Aa
  | .activate => head A C w + rest
  | .trp k => (c.tRP - 1 - k) + 1 + (C + A + rest)
  | .precharge => head A (W + Aa) w + c.tRP + 1 + (C + A + rest)
  | .autoprecharge => W + Aa + 1 + c.tRP + 1 + (C + A + rest)

theorem phi_eq (c : Cfg) (A : Nat) (s : State) (w : Nat) :
    phi c A s w = phiF c A s.fsm (rem (some c.twtp) s.twtp) (rem c.tRAS s.tras) (rem c.tRC s.trc) w := rfl

theorem phi_le (c : Cfg) (A : Nat) (s : State) (w : Nat) (hk : TOk c s) : phi c A s w ≤ phiMax c A := by
  have h1 := rem_le _ _ hk.w
  have h2 := rem_le _ _ hk.a
  have h3 := rem_le _ _ hk.r
  have h4 := head_le A (rem c.tRC s.trc) w
  have h5 := head_le A (rem (some c.twtp) s.twtp + rem c.tRAS s.tras) w
  rw [phi_eq]
  cases s.fsm <;> simp only [phiF, phiMax] <;> omega

theorem phiF_enter (c : Cfg) (A W Aa C : Nat) :
    phiF c A (enter (c.tRP - 1) .trp .activate) W Aa C 0 ≤ c.tRP + (C + A + (c.tRCD + 2 + W + c.tRAS.getD 0)) ∧
    phiF c A (enter (c.tRCD - 1) .trcd .regular) W Aa C 0 ≤ c.tRCD + 1 + W + Aa := by
  have := head_le A C 0
  constructor <;> simp only [enter] <;> split <;> simp only [phiF] <;> omega

open BmTiming in
/-- an accepted ACTIVATE reloads tRAS (to at most `tRAS`) and tRC (which `phiF` does not look at in the states that follow).  A
state that is left pays its successor's entry value (`phiF_enter`), a state that is kept counts a timer down or, with the command
offered, the wait for the multiplexer (`head_step`). -/
theorem phiF_step (c : Cfg) (A : Nat) (f : St) {rdy bv ro rh ap tw ta tc : Bool} {W Aa C Aa' C' w : Nat} (hw : w < A)
    (htw : tw = decide (W = 0)) (hta : ta = decide (Aa = 0)) (htc : tc = decide (C = 0))
    (hfair : ((f == .precharge && tw && ta) || (f == .activate && tc)) = true → w + 1 = A → rdy = true)
    (hact : (f == .activate && tc && rdy) = true → Aa' ≤ c.tRAS.getD 0)
    (hidle : (f == .activate && tc && rdy) = false → Aa' = Aa - 1 ∧ C' = C - 1) :
    (f == .refresh && tw && ta) = true ∨
    (phiF c A (nxt c f rdy true bv ro rh ap tw ta tc) (W - 1) Aa' C'
        (if ((f == .precharge && tw && ta) || (f == .activate && tc)) && !rdy then w + 1 else 0) + 1 ≤ phiF c A f W Aa C w ∧
      (if ((f == .precharge && tw && ta) || (f == .activate && tc)) && !rdy then w + 1 else 0) < A) := by
  subst htw hta htc
  obtain ⟨eP, eC⟩ := phiF_enter c A (W - 1) Aa' C'
  cases f
  case regular =>
    obtain ⟨rfl, rfl⟩ := hidle rfl
    right; simp [nxt, phiF]; omega
  case refresh =>
    obtain ⟨rfl, rfl⟩ := hidle rfl
    by_cases h0 : W = 0 ∧ Aa = 0
    · left; simp [h0]
    · right; simp [nxt, phiF]; omega
  case trcd k =>
    obtain ⟨rfl, rfl⟩ := hidle rfl
    right; simp only [nxt]; split <;> simp [phiF] <;> omega
  case trp k =>
    obtain ⟨rfl, rfl⟩ := hidle rfl
    have := head_le A (C - 1) 0
    right; simp only [nxt]; split <;> simp [phiF] <;> omega
  case autoprecharge =>
    obtain ⟨rfl, rfl⟩ := hidle rfl
    right
    by_cases h0 : W = 0 ∧ Aa = 0
    · simp [nxt, h0] at eP ⊢; simp only [phiF] at eP ⊢; omega
    · simp [nxt, h0]; simp only [phiF]; omega
  case precharge =>
    obtain ⟨rfl, rfl⟩ := hidle rfl
    right
    have hs := head_step A (W + Aa) (W - 1 + (Aa - 1)) w hw (by omega)
    by_cases h0 : W = 0 ∧ Aa = 0
    · cases rdy
      · -- offered, not accepted: fairness leaves room for one more cycle of waiting
        have : w + 1 ≠ A := fun e => by simpa using hfair (by simp [h0]) e
        simp [nxt, h0, phiF] at hs ⊢; omega
      · simp [nxt, h0] at eP ⊢; simp only [phiF, head] at eP ⊢; omega
    · simp [nxt, h0, phiF] at hs ⊢; omega
  case activate =>
    right
    by_cases h0 : C = 0
    · cases rdy
      · obtain ⟨rfl, rfl⟩ := hidle (by simp)
        have hs := head_step A C (C - 1) w hw (Nat.le_refl _)
        have : w + 1 ≠ A := fun e => by simpa using hfair (by simp [h0]) e
        simp [nxt, h0, phiF] at hs ⊢; omega
      · -- the ACTIVATE is accepted: tRAS restarts
        have := hact (by simp [h0])
        simp [nxt, h0] at eC ⊢; simp only [phiF, head] at eC ⊢; omega
    · obtain ⟨rfl, rfl⟩ := hidle (by simp [h0])
      have hs := head_step A C (C - 1) w hw (Nat.le_refl _)
      simp [nxt, h0, phiF] at hs ⊢; omega

open BmTiming in
theorem phi_step (c : Cfg) (A : Nat) (s : State) (i : In) (w : Nat) (hk : TOk c s) (hr : i.refresh = true) (hw : w < A)
    (hfair : (BankMachine.step c s i).2.cmdValid = true → w + 1 = A → i.ready = true) :
    (BankMachine.step c s i).2.refreshGnt = true ∨
    (phi c A (BankMachine.step c s i).1 (wNext c s i w) + 1 ≤ phi c A s w ∧ wNext c s i w < A) := by
  simp only [wNext, phi_eq, step_refreshGnt, cmdValid_refresh c s i hr, step_nxt, hr, step_twtp_refresh c s i hr,
    step_tras_refresh c s i hr, step_trc_refresh c s i hr, rem_idle _ _ hk.w] at hfair ⊢
  refine phiF_step c A s.fsm hw (ready_eq _ _ hk.w) (ready_eq _ _ hk.a) (ready_eq _ _ hk.r) hfair ?_ ?_
  · intro h; rw [h]; exact rem_strobe_opt _ _
  · intro h; rw [h]; exact ⟨rem_idle _ _ hk.a, rem_idle _ _ hk.r⟩

end BmLive
