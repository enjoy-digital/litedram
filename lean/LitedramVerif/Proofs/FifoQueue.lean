/-
Every shape of the stream FIFO model (`Model/Fifo.lean`, depth ≥ 1: PipeValid, SyncFIFO, SyncFIFOBuffered) refines a queue whose
entries, oldest first, are `contents`.
-/
import LitedramVerif.Model.Fifo
import LitedramVerif.Proofs.Queue
import LitedramVerif.Proofs.Lists
namespace Fifo

def contents {α : Type} (s : State α) : List α := s.out.toList ++ s.q

structure WF {α : Type} (c : Cfg) (s : State α) : Prop where
  out : ¬ (2 ≤ c.depth ∧ c.buffered = true) → s.out = none
  cap : s.q.length ≤ c.depth

theorem wf_init {α : Type} (c : Cfg) : WF c (init : State α) :=
  ⟨fun _ => rfl, by simp [init]⟩

/-- the shape of `fifo.SyncFIFO`; holds of any state -/
theorem step_sync {α : Type} (c : Cfg) (hd : 2 ≤ c.depth) (hb : c.buffered = false) (s : State α) (v : Bool) (d : α) (r : Bool) :
    step c s v d r =
      { q := (if srcValid c s v && r then s.q.tail else s.q) ++ (if v && sinkReady c s r then [d] else []) } ∧
    srcValid c s v = !s.q.isEmpty := by
  have e0 : (c.depth == 0) = false := beq_false_of_ne (by omega)
  have e1 : (c.depth == 1) = false := beq_false_of_ne (by omega)
  simp only [step, srcValid, sinkReady, e0, e1, hb, Bool.false_eq_true, if_false, Bool.and_false, Bool.not_false, if_true]
  cases (v && s.q.length != c.depth) <;> simp

theorem step_sync_length {α : Type} (c : Cfg) (hd : 2 ≤ c.depth) (hb : c.buffered = false) (s : State α) (v : Bool) (d : α) (r : Bool) :
    (step c s v d r).q.length + (if srcValid c s v && r then 1 else 0) =
      s.q.length + (if v && sinkReady c s r then 1 else 0) := by
  obtain ⟨hq, hv⟩ := step_sync c hd hb s v d r
  rw [hq]
  exact Queue.length_pop_push s.q _ _ d fun hp => by rw [hv] at hp; cases hs : s.q <;> simp_all

theorem src_head {α : Type} (c : Cfg) (hd : 1 ≤ c.depth) (s : State α) (hw : WF c s) (v : Bool) (h : srcValid c s v = true) :
    contents s ≠ [] ∧ ∀ d, srcData c s d = (contents s).head? := by
  have e0 : (c.depth == 0) = false := beq_false_of_ne (by omega)
  simp only [srcValid, srcData, e0, Bool.false_eq_true, if_false] at h ⊢
  by_cases hb : (decide (c.depth ≥ 2) && c.buffered) = true
  · simp only [hb, if_true] at h ⊢
    cases ho : s.out <;> simp [contents, ho] at h ⊢
  · have ho := hw.out (by simpa using hb)
    simp only [hb] at h ⊢
    cases hq : s.q <;> simp [contents, ho, hq] at h ⊢

theorem step_contents {α : Type} (c : Cfg) (hd : 1 ≤ c.depth) (s : State α) (hw : WF c s) (v : Bool) (d : α) (r : Bool) :
    contents (step c s v d r) =
      (if srcValid c s v && r then (contents s).tail else contents s) ++ (if v && sinkReady c s r then [d] else []) ∧
    WF c (step c s v d r) := by
  have e0 : (c.depth == 0) = false := beq_false_of_ne (by omega)
  by_cases hd1 : c.depth = 1
  · -- PipeValid: at most one entry, replaced when it leaves
    have e1 : (c.depth == 1) = true := by simpa using hd1
    have e2 : decide (c.depth ≥ 2) = false := by simpa using (by omega : c.depth < 2)
    have hq : s.q.length ≤ 1 := hd1 ▸ hw.cap
    have ho := hw.out (by omega)
    obtain ⟨q, out⟩ := s
    subst ho
    simp only [step, contents, srcValid, sinkReady, e0, e1, e2, Bool.false_eq_true, if_false, if_true, Bool.false_and,
      Option.toList_none, List.nil_append]
    match q, hq with
    | [], _ => cases v <;> simp <;> exact ⟨fun _ => rfl, by simp [hd]⟩
    | [x], _ => cases v <;> cases r <;> simp <;> exact ⟨fun _ => rfl, by simp [hd]⟩
  · have hd2 : 2 ≤ c.depth := by omega
    cases hb : c.buffered with
    | false =>
      have ho := hw.out (by simp [hb])
      obtain ⟨hs, hv⟩ := step_sync c hd2 hb s v d r
      have hc : contents s = s.q := by simp [contents, ho]
      refine ⟨by rw [hs, hc]; rfl, { out := fun _ => by rw [hs], cap := ?_ }⟩
      have hl := step_sync_length c hd2 hb s v d r
      have hcap := hw.cap
      have := Queue.level_step_le (wr := v && sinkReady c s r) hcap (fun hp => by
        have : s.q.length ≠ c.depth := by simpa [sinkReady, e0, hd1] using (Bool.and_eq_true_iff.mp hp).2
        omega) 0
      omega
    | true =>
      have e1 : (c.depth == 1) = false := beq_false_of_ne hd1
      have e2 : decide (c.depth ≥ 2) = true := by simpa using hd2
      have hcap := hw.cap
      obtain ⟨q, out⟩ := s
      have hfull : (v && q.length != c.depth) = true → q.length < c.depth := by
        intro h; simp at h hcap; omega
      simp only [step, contents, srcValid, sinkReady, e0, e1, e2, hb, Bool.false_eq_true, if_false, Bool.and_true,
        if_true, Bool.not_true]
      generalize (v && q.length != c.depth) = w at *
      refine ⟨?_, { out := fun h => absurd ⟨hd2, hb⟩ h, cap := ?_ }⟩
      · -- the output register takes the inner head exactly when it is empty or read, so `out.toList ++ q` only loses a read `out`
        rw [Lists.ite_append, ← List.append_assoc]
        congr 1
        cases out <;> cases q <;> cases r <;> simp
      · generalize (!q.isEmpty && (out.isNone || r)) = re
        have hre : (if re then q.tail else q).length ≤ q.length := by split <;> simp
        cases hw2 : w
        · exact Nat.le_trans hre hcap
        · have := hfull hw2
          simp only [if_true, List.length_append, List.length_singleton]
          omega

theorem wf_step {α : Type} (c : Cfg) (hd : 1 ≤ c.depth) (s : State α) (hw : WF c s) (v : Bool) (d : α) (r : Bool) :
    WF c (step c s v d r) := (step_contents c hd s hw v d r).2

theorem count_eq {α : Type} (s : State α) : count s = (contents s).length := by
  cases h : s.out <;> simp [count, contents, h]

theorem contents_eq_q {α : Type} {c : Cfg} {s : State α} (hw : WF c s) (hb : c.buffered = false) : contents s = s.q := by
  simp [contents, hw.out (by simp [hb])]

theorem sinkReady_of_room {α : Type} (c : Cfg) (s : State α) (r : Bool) (h : s.q.length < c.depth) :
    sinkReady c s r = true := by
  have e0 : (c.depth == 0) = false := beq_false_of_ne (by omega)
  simp only [sinkReady, e0, Bool.false_eq_true, if_false]
  split
  next h1 =>
    have h1 : c.depth = 1 := by simpa using h1
    have : s.q = [] := List.eq_nil_of_length_eq_zero (by omega)
    simp [this]
  next => simpa using (by omega : s.q.length ≠ c.depth)

theorem srcValid_of_ne_nil {α : Type} (c : Cfg) (hd : 1 ≤ c.depth) (hb : c.buffered = false) (s : State α) (v : Bool)
    (h : s.q ≠ []) : srcValid c s v = true := by
  have e0 : (c.depth == 0) = false := beq_false_of_ne (by omega)
  cases hq : s.q with
  | nil => exact absurd hq h
  | cons _ _ => simp [srcValid, e0, hb, hq]

theorem step_length {α : Type} (c : Cfg) (hd : 1 ≤ c.depth) (s : State α) (hw : WF c s) (v : Bool) (d : α) (r : Bool) :
    (contents (step c s v d r)).length + (if srcValid c s v && r then 1 else 0) =
      (contents s).length + (if v && sinkReady c s r then 1 else 0) := by
  rw [(step_contents c hd s hw v d r).1]
  exact Queue.length_pop_push _ _ _ d fun hp => (src_head c hd s hw v (Bool.and_eq_true_iff.mp hp).1).1

/-- `dflt` is whatever the user of `srcData` substitutes for `none` -/
theorem step_conserve {α : Type} (c : Cfg) (hd : 1 ≤ c.depth) (s : State α) (hw : WF c s) (v : Bool) (d : α) (r : Bool) (dflt : α) :
    (if srcValid c s v && r then [(srcData c s d).getD dflt] else []) ++ contents (step c s v d r) =
      contents s ++ (if v && sinkReady c s r then [d] else []) := by
  rw [(step_contents c hd s hw v d r).1]
  by_cases hp : (srcValid c s v && r) = true
  · obtain ⟨hne, hhead⟩ := src_head c hd s hw v (Bool.and_eq_true_iff.mp hp).1
    cases hcs : contents s with
    | nil => exact absurd hcs hne
    | cons x xs => simp [hp, hhead, hcs]
  · simp [hp]

end Fifo
