/-
The timing invariant of the composed controller against the ages of the specification monitor `Spec/TimingMon.lean`.  The
commands of a cycle are those of the accepting choosers and of the refresher, so the monitor restarts an age exactly when a
component restarts its timer.  `TInv` is the three components' timing invariants (`BmTiming.BInv`, `MInv`, `RfTiming.RTInv`)
and what ties them across a refresh episode.
-/
import LitedramVerif.Proofs.DfiLegal
import LitedramVerif.Proofs.RfTiming
namespace CtlTiming
open Controller Hw CtlInv TimingMon BmTiming

/-- requirement table of the monitor: the controller's own settings, in controller cycles -/
def reqOf (c : Controller.Cfg) : Req :=
  { tRCD := c.bm.tRCD, tRP := c.bm.tRP, tRAS := c.bm.tRAS.getD 0, tRC := c.bm.tRC.getD 0, tRRD := c.tRRD.getD 0, tFAW := c.tFAW.getD 0,
    tCCD := c.tCCD, tWTP := c.bm.twtp, tWTR := c.twtr, tRFC := c.rf.tRFC, tZQCS := c.rf.tZQCS.getD 0, nbanks := c.nbm }

def bmEv (c : Controller.Cfg) (s : State) (ins : Array BankIn) (j : Nat) : Option Ev :=
  match cmdOfBm c s ins j with
  | .nop => none
  | .act _ => some (.act j)
  | .pre => some (.pre j)
  | .cas ap => some (if (reqJ c s ins j).isWrite then .wr j ap else .rd j ap)

def rfEv (c : Controller.Cfg) (s : State) : Option Ev :=
  if (roOf c s).valid && (s.fsm == .refresh) then
    (if s.rf.ras && s.rf.we && !s.rf.cas then some .prea else if s.rf.cas && s.rf.ras && !s.rf.we then some .ref
     else if s.rf.we && !s.rf.ras && !s.rf.cas then some .zqc else none)
  else none

def evsOf (c : Controller.Cfg) (s : State) (ins : Array BankIn) : List Ev :=
  (List.range c.nbm).filterMap (bmEv c s ins) ++ (rfEv c s).toList

def evOfReq (r : BankMachine.Req) (j : Nat) (ap : Bool) : Ev :=
  if r.cas then (if r.isWrite then .wr j ap else .rd j ap) else if r.we then .pre j else .act j

abbrev evJ (c : Controller.Cfg) (s : State) (ins : Array BankIn) (j : Nat) : Ev := evOfReq (reqJ c s ins j) j (apOf c s ins j)

/-- `bmEv` reads the step's output, as `binv_step` does; `evJ` reads the request lines, of which the choosers' `Serves` speaks -/
theorem bmEv_eq (c : Controller.Cfg) (s : State) (ins : Array BankIn) (j : Nat) :
    bmEv c s ins j = if bmReadyOf c s ins j then some (evJ c s ins j) else none := by
  cases hr : bmReadyOf c s ins j
  · simp [bmEv, cmdOfBm_eq, hr]
  · obtain ⟨_, hs⟩ := ready_serves c s ins j hr
    cases hc : (reqJ c s ins j).cas <;> cases hw : (reqJ c s ins j).we <;>
      simp [bmEv, cmdOfBm_eq, hr, classify, hs.valid, evOfReq, (reqJ_shape c s ins j).ras, hc, hw]

theorem bmEv_from (c : Controller.Cfg) (s : State) (ins : Array BankIn) (j : Nat) (e : Ev) (he : bmEv c s ins j = some e) :
    e = evJ c s ins j ∧
      (((combOf c s ins).reqAccept = true ∧ s.grantReq = j) ∨ ((combOf c s ins).cmdAccept = true ∧ s.grantCmd = j)) := by
  rw [bmEv_eq] at he
  split at he
  · next hr => exact ⟨(Option.some.inj he).symm, (bmReady_iff c s ins j).mp hr⟩
  · cases he

theorem bmEv_src (c : Controller.Cfg) (hab : 11 ≤ c.bm.abits) (s : State) (ins : Array BankIn) (j : Nat) (hj : j < c.nbm) (e : Ev)
    (he : bmEv c s ins j = some e) :
    ((combOf c s ins).reqAccept = true ∧ s.grantReq = j ∧ e = evOfReq (reqJ c s ins j) j (apOf c s ins j)) ∨
    ((combOf c s ins).cmdAccept = true ∧ s.grantCmd = j ∧ e = evOfReq (reqJ c s ins j) j (apOf c s ins j)) := by
  obtain ⟨rfl, h⟩ := bmEv_from c s ins j e he
  exact h.imp (fun ⟨a, b⟩ => ⟨a, b, rfl⟩) (fun ⟨a, b⟩ => ⟨a, b, rfl⟩)

theorem bm_issued (c : Controller.Cfg) (s : State) (ins : Array BankIn) (e : Ev) :
    (∃ j, j < c.nbm ∧ bmEv c s ins j = some e) ↔
    ((combOf c s ins).reqAccept = true ∧ e = evJ c s ins s.grantReq) ∨ ((combOf c s ins).cmdAccept = true ∧ e = evJ c s ins s.grantCmd) := by
  constructor
  · rintro ⟨j, _, he⟩
    obtain ⟨rfl, ⟨ha, rfl⟩ | ⟨ha, rfl⟩⟩ := bmEv_from c s ins j e he
    · exact Or.inl ⟨ha, rfl⟩
    · exact Or.inr ⟨ha, rfl⟩
  · rintro (⟨ha, rfl⟩ | ⟨ha, rfl⟩)
    · have a := req_acc c s ins ha
      exact ⟨_, a.lt, by rw [bmEv_eq, a.ready]; rfl⟩
    · have a := cmd_acc c s ins ha
      exact ⟨_, a.lt, by rw [bmEv_eq, a.ready]; rfl⟩

theorem any_bm (c : Controller.Cfg) (hab : 11 ≤ c.bm.abits) (s : State) (ins : Array BankIn) (p : Ev → Bool) :
    (∃ j, j < c.nbm ∧ ∃ e, bmEv c s ins j = some e ∧ p e = true) ↔
    ((combOf c s ins).reqAccept = true ∧ p (evOfReq (reqJ c s ins s.grantReq) s.grantReq (apOf c s ins s.grantReq)) = true) ∨
    ((combOf c s ins).cmdAccept = true ∧ p (evOfReq (reqJ c s ins s.grantCmd) s.grantCmd (apOf c s ins s.grantCmd)) = true) := by
  constructor
  · rintro ⟨j, hj, e, he, hp⟩
    rcases (bm_issued c s ins e).mp ⟨j, hj, he⟩ with ⟨ha, rfl⟩ | ⟨ha, rfl⟩
    · exact Or.inl ⟨ha, hp⟩
    · exact Or.inr ⟨ha, hp⟩
  · rintro (⟨ha, hp⟩ | ⟨ha, hp⟩)
    · obtain ⟨j, hj, he⟩ := (bm_issued c s ins _).mpr (Or.inl ⟨ha, rfl⟩); exact ⟨j, hj, _, he, hp⟩
    · obtain ⟨j, hj, he⟩ := (bm_issued c s ins _).mpr (Or.inr ⟨ha, rfl⟩); exact ⟨j, hj, _, he, hp⟩

theorem mem_evs (c : Controller.Cfg) (s : State) (ins : Array BankIn) (e : Ev) :
    e ∈ evsOf c s ins ↔ ((combOf c s ins).reqAccept = true ∧ e = evJ c s ins s.grantReq) ∨
      ((combOf c s ins).cmdAccept = true ∧ e = evJ c s ins s.grantCmd) ∨ rfEv c s = some e := by
  rw [← or_assoc, ← bm_issued]
  simp [evsOf, List.mem_filterMap]

theorem any_evs (c : Controller.Cfg) (s : State) (ins : Array BankIn) (p : Ev → Bool) :
    (evsOf c s ins).any p = (((combOf c s ins).reqAccept && p (evJ c s ins s.grantReq)) ||
      ((combOf c s ins).cmdAccept && p (evJ c s ins s.grantCmd)) || (rfEv c s).any p) := by
  rw [Bool.eq_iff_iff, List.any_eq_true]
  simp only [mem_evs, Bool.or_eq_true, Bool.and_eq_true, Option.any_eq_true]
  constructor
  · rintro ⟨e, (⟨ha, rfl⟩ | ⟨ha, rfl⟩ | he), hp⟩
    · exact Or.inl (Or.inl ⟨ha, hp⟩)
    · exact Or.inl (Or.inr ⟨ha, hp⟩)
    · exact Or.inr ⟨e, he, hp⟩
  · rintro ((⟨ha, hp⟩ | ⟨ha, hp⟩) | ⟨e, he, hp⟩)
    · exact ⟨_, Or.inl ⟨ha, rfl⟩, hp⟩
    · exact ⟨_, Or.inr (Or.inl ⟨ha, rfl⟩), hp⟩
    · exact ⟨e, Or.inr (Or.inr he), hp⟩

theorem rfEv_eq (c : Controller.Cfg) (s : State) : rfEv c s = RfTiming.evR c.rf s.rf (s.fsm == .refresh) := rfl

theorem rfEv_kind (c : Controller.Cfg) (s : State) (e : Ev) (h : rfEv c s = some e) : e = .prea ∨ e = .ref ∨ e = .zqc := by
  rw [rfEv_eq, RfTiming.evR_iff] at h
  rcases h with ⟨_, _, ⟨rfl, _⟩ | ⟨rfl, _⟩ | ⟨rfl, _⟩⟩ <;> simp

theorem rfEv_acc (c : Controller.Cfg) (s : State) (e : Ev) (h : rfEv c s = some e) : (roOf c s).valid = true ∧ s.fsm = .refresh := by
  rw [rfEv_eq, RfTiming.evR_iff] at h
  obtain ⟨hv, hr, _⟩ := h
  exact ⟨hv, by simpa using hr⟩

theorem preaOf_eq (c : Controller.Cfg) (s : State) : preaOf c s = (rfEv c s == some .prea) := by
  rw [Bool.eq_iff_iff, beq_iff_eq, rfEv_eq, RfTiming.evR_iff]
  simp [preaOf, RefresherInv.preaAcc, and_assoc]

theorem rfEv_any (c : Controller.Cfg) (s : State) (p : Ev → Bool) (h1 : p .ref = false) (h2 : p .zqc = false) :
    (rfEv c s).any p = (preaOf c s && p .prea) := by
  rw [preaOf_eq]
  cases hr : rfEv c s with
  | none => rfl
  | some e => rcases rfEv_kind c s e hr with h | h | h <;> subst h <;> simp [h1, h2]

theorem serves_strobes (c : Controller.Cfg) (s : State) (ins : Array BankIn) (x : Chosen) (j : Nat) (h : Serves c s ins x j) :
    x.activate = isAct (evJ c s ins j) ∧ (x.isWrite || x.isRead) = isCas (evJ c s ins j) ∧ x.isWrite = isWr (evJ c s ins j) := by
  have hs := reqJ_shape c s ins j
  rw [h.eq]
  simp only [chosenOf, Chosen.activate, evOfReq, hs.isRead, hs.isWrite, hs.ras, h.valid]
  cases (reqJ c s ins j).cas <;> cases (reqJ c s ins j).we <;> simp [isAct, isCas, isWr]

theorem any_of_choosers (c : Controller.Cfg) (s : State) (ins : Array BankIn) (p : Ev → Bool) (f : Chosen → Bool)
    (h0 : p .prea = false) (h1 : p .ref = false) (h2 : p .zqc = false)
    (hf : ∀ x j, Serves c s ins x j → f x = p (evJ c s ins j)) :
    (evsOf c s ins).any p = (((combOf c s ins).reqAccept && f (combOf c s ins).cReq) ||
      ((combOf c s ins).cmdAccept && f (combOf c s ins).cCmd)) := by
  rw [any_evs, rfEv_any c s p h1 h2, h0, Bool.and_false, Bool.or_false]
  congr 1
  · cases ha : (combOf c s ins).reqAccept
    · rfl
    · rw [hf _ _ (req_acc c s ins ha).toServes]
  · cases ha : (combOf c s ins).cmdAccept
    · rfl
    · rw [hf _ _ (cmd_acc c s ins ha).toServes]

theorem any_isAct (c : Controller.Cfg) (s : State) (ins : Array BankIn) :
    (evsOf c s ins).any isAct = actStrobeOf c s ins := by
  rw [any_of_choosers c s ins isAct Chosen.activate rfl rfl rfl fun x j h => (serves_strobes c s ins x j h).1, actStrobeOf]
  cases hone : (c.nphases == 1)
  · -- several phases: the request chooser takes no row command
    cases ha : (combOf c s ins).reqAccept
    · simp
    · have a := req_acc c s ins ha
      simp [a.eq, chosenOf_activate, a.col hone]
  · simp [cmd_noaccept_one c s ins hone]

theorem cmd_nocas (c : Controller.Cfg) (s : State) (ins : Array BankIn) :
    ((combOf c s ins).cmdAccept && ((combOf c s ins).cCmd.isWrite || (combOf c s ins).cCmd.isRead)) = false ∧
    ((combOf c s ins).cmdAccept && (combOf c s ins).cCmd.isWrite) = false := by
  cases ha : (combOf c s ins).cmdAccept
  · exact ⟨rfl, rfl⟩
  · have a := cmd_acc c s ins ha
    have hs := reqJ_shape c s ins s.grantCmd
    simp [a.eq, chosenOf, hs.isRead, hs.isWrite, a.row]

theorem any_isCas (c : Controller.Cfg) (s : State) (ins : Array BankIn) :
    (evsOf c s ins).any isCas = casStrobeOf c s ins := by
  rw [any_of_choosers c s ins isCas (fun x => x.isWrite || x.isRead) rfl rfl rfl fun x j h => (serves_strobes c s ins x j h).2.1,
    (cmd_nocas c s ins).1, Bool.or_false, casStrobeOf]

theorem any_isWr (c : Controller.Cfg) (s : State) (ins : Array BankIn) :
    (evsOf c s ins).any isWr = wrStrobeOf c s ins := by
  rw [any_of_choosers c s ins isWr (·.isWrite) rfl rfl rfl fun x j h => (serves_strobes c s ins x j h).2.2,
    (cmd_nocas c s ins).2, Bool.or_false, wrStrobeOf]

theorem act_gate (c : Controller.Cfg) (s : State) (ins : Array BankIn) (h : actStrobeOf c s ins = true) :
    s.trrd.ready = true ∧ s.tfaw.ready = true := by
  have key : ∀ x j, Serves c s ins x j → x.activate = true → s.trrd.ready = true ∧ s.tfaw.ready = true := by
    intro x j hs ha
    rw [hs.eq, chosenOf_activate] at ha
    simp only [Bool.and_eq_true, Bool.not_eq_true'] at ha
    exact hs.rasGate ha.1.2 ha.2
  simp only [actStrobeOf] at h
  split at h <;> simp only [Bool.and_eq_true] at h
  · exact key _ _ (req_acc c s ins h.1).toServes h.2
  · exact key _ _ (cmd_acc c s ins h.1).toServes h.2

structure MInv (c : Controller.Cfg) (s : State) (m : St) : Prop where
  rrd : TxAge c.tRRD s.trrd m.actAny
  ccd : TxAge (some c.tCCD) s.tccd m.cas
  wtr : TxAge (some c.twtr) s.twtr m.wrAny
  faw : ∀ f, c.tFAW = some f → C03.TfInv f s.tfaw
  win : ∀ f, c.tFAW = some f → m.win = s.tfaw.window
  /-- READ is entered from WTR (tWTR timer ready) or at the end of a refresh episode (`minv_step`'s `hexit`, from `episode_end`) -/
  rdOk : s.fsm = .read → ok m.wrAny c.twtr = true

theorem minv_init (c : Controller.Cfg) : MInv c (init c) (St.init (reqOf c)) where
  rrd := txage_init _
  ccd := txage_init _
  wtr := txage_init _
  faw f hf := by simpa [init, hf] using C03.tfinv_init f
  win f hf := by simp [St.init, reqOf, hf, init, TF.init]
  rdOk _ := by simp [St.init, ok]

theorem wr_only_in_write (c : Controller.Cfg) (s : State) (ins : Array BankIn)
    (h : wrStrobeOf c s ins = true) : s.fsm = .write := by
  simp only [wrStrobeOf, Bool.and_eq_true] at h
  have a := req_acc c s ins h.1
  have hw : (reqJ c s ins s.grantReq).isWrite = true := by rw [← h.2, a.eq]; rfl
  rw [(reqJ_shape c s ins _).isWrite, Bool.and_eq_true] at hw
  simpa [hw.2] using a.dir hw.1

theorem advance_actAny (q : Req) (m : St) (evs : List Ev) :
    (advance q m evs).actAny = if evs.any isAct then some 1 else tick m.actAny := rfl
theorem advance_cas (q : Req) (m : St) (evs : List Ev) :
    (advance q m evs).cas = if evs.any isCas then some 1 else tick m.cas := rfl
theorem advance_wrAny (q : Req) (m : St) (evs : List Ev) :
    (advance q m evs).wrAny = if evs.any isWr then some 1 else tick m.wrAny := rfl
theorem advance_win (q : Req) (m : St) (evs : List Ev) :
    (advance q m evs).win = (evs.any isAct :: m.win).take q.tFAW := rfl

theorem wrAny_tick (c : Controller.Cfg) (s : State) (ins : Array BankIn) (m : St) (h : s.fsm ≠ .write) :
    (advance (reqOf c) m (evsOf c s ins)).wrAny = tick m.wrAny := by
  rw [advance_wrAny, any_isWr]
  cases hw : wrStrobeOf c s ins
  · rfl
  · exact absurd (wr_only_in_write c s ins hw) h

/-- the second conjunct is the window test of `TimingMon.step` (at most four ACT in tFAW), here from `C03.TfInv`'s count -/
theorem minv_step (c : Controller.Cfg) (s : State) (ins : Array BankIn) (m : St) (h : MInv c s m)
    (hexit : s.fsm = .refresh → (roOf c s).last = true → ok m.wrAny c.twtr = true) :
    MInv c (step c s ins).1 (advance (reqOf c) m (evsOf c s ins)) ∧
    (((advance (reqOf c) m (evsOf c s ins)).win.filter id).length ≤ 4) := by
  have hfaw : ∀ f, c.tFAW = some f → C03.TfInv f (step c s ins).1.tfaw := fun f hf => by
    rw [step_tfaw, hf]
    exact C03.tf_step f s.tfaw _ (fun hv => (act_gate c s ins hv).2) (h.faw f hf)
  have hwin : ∀ f, c.tFAW = some f → (advance (reqOf c) m (evsOf c s ins)).win = (step c s ins).1.tfaw.window := fun f hf => by
    rw [advance_win, any_isAct, step_tfaw, hf]
    simp [tf_step_window, reqOf, hf, h.win f hf]
  refine ⟨{ rrd := ?_, ccd := ?_, wtr := ?_, faw := hfaw, win := hwin, rdOk := ?rdOk }, ?_⟩
  · rw [step_trrd, advance_actAny, any_isAct]; exact txage_step _ _ _ _ h.rrd
  · rw [step_tccd, advance_cas, any_isCas]; exact txage_step _ _ _ _ h.ccd
  · rw [step_twtr, advance_wrAny, any_isWr]; exact txage_step _ _ _ _ h.wtr
  case rdOk =>
    rw [step_fsm]
    intro hn
    -- READ is entered (or kept) from a state other than WRITE, in which tWTR since the last write has been established
    have key : s.fsm ≠ .write ∧ ok m.wrAny c.twtr = true := by
      rcases mux_next_read c s ins hn with hr | ⟨hr, hl⟩ | ⟨hr, hrd⟩
      · exact ⟨by rw [hr]; nofun, h.rdOk hr⟩
      · exact ⟨by rw [hr]; nofun, hexit hr hl⟩
      · exact ⟨by rw [hr]; nofun, txage_ready _ _ _ h.wtr hrd⟩
    rw [wrAny_tick c s ins m key.1]
    exact ok_tick _ _ key.2
  · cases hf : c.tFAW with
    | none => rw [advance_win]; simp [reqOf, hf]
    | some f => rw [hwin f hf]; exact (hfaw f hf).2.1

def agesOf (m : St) (j : Nat) : BAges := ⟨m.act j, m.pre j, m.wr j, m.apRd j, m.apWr j, m.apPend j⟩

def bankOf : Ev → Option Nat
  | .act b | .pre b | .rd b _ | .wr b _ => some b
  | _ => none

theorem bankOf_ev (r : BankMachine.Req) (j : Nat) (ap : Bool) : bankOf (evOfReq r j ap) = some j := by
  unfold evOfReq
  repeat' split
  all_goals rfl

theorem any_of_bank (c : Controller.Cfg) (s : State) (ins : Array BankIn) (j : Nat) (p : Ev → Bool)
    (hp : ∀ e, p e = true → bankOf e = some j ∨ e = .prea) :
    (evsOf c s ins).any p = ((bmEv c s ins j).any p || (preaOf c s && p .prea)) := by
  have hno : ∀ e, bankOf e = none → e ≠ .prea → p e = false := fun e h1 h2 =>
    Bool.eq_false_iff.mpr fun h => by rcases hp e h with h | h; rw [h1] at h; cases h; exact h2 h
  have key : ∀ g, p (evJ c s ins g) = ((g == j) && p (evJ c s ins j)) := fun g => by
    cases hg : g == j
    · refine Bool.eq_false_iff.mpr fun h => ?_
      have hb : bankOf (evJ c s ins g) = some g := bankOf_ev ..
      rcases hp _ h with h' | h' <;> rw [h'] at hb <;> cases hb
      simp at hg
    · rw [eq_of_beq hg, Bool.true_and]
  rw [any_evs, rfEv_any c s p (hno _ rfl nofun) (hno _ rfl nofun), bmEv_eq, bmReady_eq, key s.grantReq, key s.grantCmd]
  cases (combOf c s ins).reqAccept <;> cases (combOf c s ins).cmdAccept <;> cases s.grantReq == j <;> cases s.grantCmd == j <;> simp

theorem adv_bank (c : Controller.Cfg) (s : State) (ins : Array BankIn) (m : St) (q : Req) (j : Nat) :
    agesOf (advance q m (evsOf c s ins)) j =
      bAdvance (agesOf m j) (cmdOfBm c s ins j) (s.bms[j]!).buf.we (preaOf c s) := by
  have hb := any_of_bank c s ins j
  simp only [agesOf, advance, hb (· == .act j) (by simp [bankOf]), hb (fun e => e == .pre j || e == .prea) (by simp [bankOf]),
    hb (fun e => e == .wr j true || e == .wr j false) (by simp [bankOf]), hb (· == .rd j true) (by simp [bankOf]),
    hb (· == .wr j true) (by simp [bankOf]), hb (fun e => e == .rd j true || e == .wr j true) (by simp [bankOf])]
  rw [bmEv_eq, cmdOfBm_eq]
  cases hr : bmReadyOf c s ins j
  · simp [bAdvance]
  · obtain ⟨_, hs⟩ := ready_serves c s ins j hr
    have hsh := reqJ_shape c s ins j
    have hbw := reqJ_isWrite c s ins j
    -- a served bank machine: kind by kind its event restarts exactly the ages `bAdvance` restarts (`hbw`: a CAS writes iff `buf.we`)
    cases hc : (reqJ c s ins j).cas <;> cases hw : (reqJ c s ins j).we <;>
      simp_all [hsh.isWrite, evOfReq, classify, hs.valid, hsh.ras, bAdvance]

structure TInv (c : Controller.Cfg) (s : State) (g : Ghost) (m : St) : Prop where
  mux : MInv c s m
  bm : ∀ j, j < c.nbm → BInv c.bm s.bms[j]! (agesOf m j)
  rt : RfTiming.RTInv c.rf s.rf m.prea m.ref m.zq
  /-- with it a bank machine leaving REFRESH has waited tRP since the episode's precharge-all (`binv_at`) -/
  preEq : g.pd = true → ∀ j, j < c.nbm → m.pre j = m.prea
  /-- the last write is older than the episode's precharge-all: write → refresh → read by-passes WTR, and tWTR is then covered by
  the length of the refresh (`WF3.wtr`) -/
  wrOld : g.pd = true → ∀ t, ok m.prea t = true → ok m.wrAny t = true
  /-- the same once the ZQ calibration's own precharge-all has restarted the PREA age -/
  wrZq : s.rf.fsm = .doZqcs → ok m.wrAny (c.rf.tRP + c.rf.tRFC) = true
  /-- the refresh grants were given with tRAS and tWTP elapsed on every bank, as the precharge-all needs -/
  gnt : s.fsm = .refresh → ∀ j, j < c.nbm → ok (m.act j) (c.bm.tRAS.getD 0) = true ∧ ok (m.wr j) c.bm.twtp = true

structure WF3 (c : Controller.Cfg) : Prop where
  wf2 : WF2 c
  rp : c.rf.tRP = c.bm.tRP                       -- one tRP for bank machines and refresher (both are settings.timing.tRP)
  wtr : c.twtr ≤ c.rf.tRP + c.rf.tRFC            -- a refresh lasts at least as long as the write-to-read turn-around
  rpPos : 1 ≤ c.bm.tRP

theorem ev_ne_rf (r : BankMachine.Req) (j : Nat) (ap : Bool) (e0 : Ev) (he0 : e0 = .prea ∨ e0 = .ref ∨ e0 = .zqc) :
    (evOfReq r j ap == e0) = false := by
  unfold evOfReq
  rcases he0 with h | h | h <;> subst h <;> repeat' split
  all_goals rfl

theorem adv_rf (c : Controller.Cfg) (s : State) (ins : Array BankIn) (m : St) (q : Req) :
    (advance q m (evsOf c s ins)).prea = RfTiming.upd m.prea (rfEv c s == some .prea) ∧
    (advance q m (evsOf c s ins)).ref = RfTiming.upd m.ref (rfEv c s == some .ref) ∧
    (advance q m (evsOf c s ins)).zq = RfTiming.upd m.zq (rfEv c s == some .zqc) := by
  have key : ∀ (e0 : Ev), (e0 = .prea ∨ e0 = .ref ∨ e0 = .zqc) → (evsOf c s ins).any (· == e0) = (rfEv c s == some e0) := by
    intro e0 he0
    rw [any_evs, ev_ne_rf _ _ _ e0 he0, ev_ne_rf _ _ _ e0 he0]
    cases rfEv c s <;> simp
  exact ⟨congrArg (RfTiming.upd m.prea) (key .prea (Or.inl rfl)), congrArg (RfTiming.upd m.ref) (key .ref (Or.inr (Or.inl rfl))),
    congrArg (RfTiming.upd m.zq) (key .zqc (Or.inr (Or.inr rfl)))⟩

/-- facts about the end of a refresh episode: when the refresher withdraws `valid` while executing, the precharge-all of
this episode is at least tRP + min(tRFC, tZQCS) old, and so is the last write -/
theorem episode_end (c : Controller.Cfg) (hwf : WF3 c) (s : State) (g : Ghost) (m : St) (hc : CInv c s g) (ht : TInv c s g m)
    (hin : RefresherInv.inRef s.rf.fsm = true) (hv : (roOf c s).valid = false) :
    g.pd = true ∧ ok m.prea c.bm.tRP = true ∧ ok m.wrAny c.twtr = true := by
  have hpd := hc.rf.novalid_pd hin hv
  have hrp := hwf.rp
  have hw := hwf.wtr
  rcases RefresherInv.novalid_done c.rf s.rf hin hv with ⟨hfs, hx⟩ | ⟨hfs, hx⟩
  · have h4 := ht.rt.ex.preaDone hfs hx
    exact ⟨hpd, ok_mono _ _ _ h4 (by omega), ok_mono _ _ _ (ht.wrOld hpd _ h4) hw⟩
  · have h4 := ht.rt.zq.preaDone hfs hx
    exact ⟨hpd, ok_mono _ _ _ h4 (by omega), ok_mono _ _ _ (ht.wrZq hfs) hw⟩

structure BankStep (c : Controller.Cfg) (s : State) (ins : Array BankIn) (m : St) (j : Nat) : Prop where
  allowed : bAllowed c.bm (agesOf m j) (cmdOfBm c s ins j) = true
  inv : BInv c.bm (step c s ins).1.bms[j]! (agesOf (advance (reqOf c) m (evsOf c s ins)) j)
  gnt : (reqJ c s ins j).refreshGnt = true → ok (m.act j) (c.bm.tRAS.getD 0) = true ∧ ok (m.wr j) c.bm.twtp = true

/-- the environment `BmTiming.binv_step` asks for: the precharge-all comes only while the bank machine is in REFRESH; the
refresh request is withdrawn only tRP after it (`episode_end`) -/
theorem binv_at (c : Controller.Cfg) (hwf : WF3 c) (s : State) (g : Ghost) (ins : Array BankIn) (m : St) (hc : CInv c s g)
    (ht : TInv c s g m) (j : Nat) (hj : j < c.nbm) : BankStep c s ins m j := by
  obtain ⟨hallowed, hinv, hgnt⟩ :=
    BmTiming.binv_step c.bm hwf.rpPos s.bms[j]! (bmIn c s ins j) (agesOf m j) (preaOf c s) (ht.bm j hj)
      (fun hp => ⟨hc.muxRef (preaOf_acc c s hp).2 j hj, (preaOf_acc c s hp).1⟩) fun hf hr => by
        rw [bmIn_refresh] at hr
        obtain ⟨hpd, hpre, _⟩ := episode_end c hwf s g m hc ht (inRef_of_withdrawn c s g hc j hj hf hr) hr
        show ok (m.pre j) c.bm.tRP = true
        rw [ht.preEq hpd j hj]; exact hpre
  exact ⟨hallowed, by rw [step_bms c s ins j hj, adv_bank c s ins m (reqOf c) j]; exact hinv, hgnt⟩

theorem rt_at (c : Controller.Cfg) (hwf : WF3 c) (s : State) (g : Ghost) (ins : Array BankIn) (m : St) (hc : CInv c s g)
    (ht : TInv c s g m) :
    ((rfEv c s = some .ref ∨ rfEv c s = some .zqc) →
      ok m.prea c.rf.tRP = true ∧ ok m.ref c.rf.tRFC = true ∧ ok m.zq (c.rf.tZQCS.getD 0) = true) ∧
    RfTiming.RTInv c.rf (step c s ins).1.rf (advance (reqOf c) m (evsOf c s ins)).prea
      (advance (reqOf c) m (evsOf c s ins)).ref (advance (reqOf c) m (evsOf c s ins)).zq := by
  obtain ⟨hp, hr, hz⟩ := adv_rf c s ins m (reqOf c)
  rw [step_rf, hp, hr, hz]
  exact RfTiming.rtinv_step c.rf hwf.wf2.base.rf s.rf g.pd (s.fsm == .refresh) m.prea m.ref m.zq hc.rf ht.rt hc.rfReady

theorem allowed_ev (c : Controller.Cfg) (m : St) (r : BankMachine.Req) (hs : ReqShape r) (hv : r.valid = true) (j : Nat) (ap : Bool)
    (hb : bAllowed c.bm (agesOf m j) (classify r ap) = true)
    (href : ok m.ref c.rf.tRFC = true) (hzq : ok m.zq (c.rf.tZQCS.getD 0) = true)
    (hrrd : r.cas = false → r.we = false → ok m.actAny (c.tRRD.getD 0) = true)
    (hcas : r.cas = true → ok m.cas c.tCCD = true ∧ (r.we = false → ok m.wrAny c.twtr = true)) :
    allowed (reqOf c) m (evOfReq r j ap) = true := by
  -- per kind: the rules on the bank's own ages (tRP, tRC, tRCD, tRAS, tWTP, the auto-precharge ones) are `hb`; an ACT's tRRD,
  -- tRFC, tZQCS are `hrrd`, `href`, `hzq`; a column command's tCCD and a read's tWTR are `hcas`
  cases hc : r.cas <;> cases hw : r.we <;>
    simp_all [classify, evOfReq, hs.ras, hs.isWrite, allowed, bAllowed, reqOf, agesOf]

theorem serves_allowed (c : Controller.Cfg) (hwf : WF3 c) (s : State) (g : Ghost) (ins : Array BankIn) (m : St)
    (hc : CInv c s g) (ht : TInv c s g m) (x : Chosen) (j : Nat) (hs : Serves c s ins x j)
    (hcas : (reqJ c s ins j).cas = true → s.tccd.ready = true ∧ (reqJ c s ins j).we = (s.fsm == .write)) :
    allowed (reqOf c) m (evJ c s ins j) = true := by
  have hb := (binv_at c hwf s g ins m hc ht j hs.lt).allowed
  rw [cmdOfBm_eq, hs.ready, if_pos rfl] at hb
  -- the multiplexer is in READ / WRITE, so the refresher is not executing: tRFC and tZQCS have elapsed
  have hnin : RefresherInv.inRef s.rf.fsm ≠ true := fun hi => by
    have := hc.inRef hi; rcases hs.active with e | e <;> rw [e] at this <;> cases this
  refine allowed_ev c m _ (reqJ_shape c s ins j) hs.valid j _ hb
    (ht.rt.ex.cmdOld fun ⟨e, _⟩ => hnin (by simp [RefresherInv.inRef, e])) (ht.rt.zq.cmdOld fun ⟨e, _⟩ => hnin (by simp [RefresherInv.inRef, e]))
    (fun h1 h2 => txage_ready _ _ _ ht.mux.rrd (hs.rasGate h1 h2).1) fun h1 => ?_
  obtain ⟨hccd, hdir⟩ := hcas h1
  refine ⟨by simpa using txage_ready _ _ _ ht.mux.ccd hccd, fun hw => ht.mux.rdOk ?_⟩
  rw [hw] at hdir
  rcases hs.active with e | e
  · exact e
  · simp [e] at hdir

theorem all_allowed (c : Controller.Cfg) (hwf : WF3 c) (s : State) (g : Ghost) (ins : Array BankIn) (m : St)
    (hc : CInv c s g) (ht : TInv c s g m) :
    (evsOf c s ins).all (allowed (reqOf c) m) = true := by
  rw [List.all_eq_true]
  intro e he
  rcases (mem_evs c s ins e).mp he with ⟨ha, rfl⟩ | ⟨ha, rfl⟩ | hev
  · have a := req_acc c s ins ha
    exact serves_allowed c hwf s g ins m hc ht _ _ a.toServes fun h => ⟨a.ccd, a.dir h⟩
  · have a := cmd_acc c s ins ha
    exact serves_allowed c hwf s g ins m hc ht _ _ a.toServes fun h => by rw [a.row] at h; cases h
  · have hacc := rfEv_acc c s e hev
    rcases rfEv_kind c s e hev with h | h | h <;> subst h
    · simp only [allowed, reqOf, List.all_eq_true, List.mem_range, Bool.and_eq_true]
      intro b hb
      exact ht.gnt hacc.2 b hb
    all_goals
      obtain ⟨hprea, href, hzq⟩ := (rt_at c hwf s g ins m hc ht).1 (by rw [hev]; simp)
      simp [allowed, reqOf, hprea, href, hzq, ← hwf.rp]

theorem exclusive_iff (q : Req) (l : List Ev) : exclusive q l = true ↔ l.Pairwise (fun a b => conflict q a b = false) := by
  induction l with
  | nil => simp [exclusive]
  | cons e rest ih =>
    simp only [exclusive, Bool.and_eq_true, List.all_eq_true, Bool.not_eq_true', List.pairwise_cons, ih]

theorem col_row_noconflict (q : Req) (r r' : BankMachine.Req) (i j : Nat) (ap ap' : Bool) (hij : i ≠ j)
    (hc : r.cas = true) (hc' : r'.cas = false) : conflict q (evOfReq r i ap) (evOfReq r' j ap') = false := by
  have h1 : (i == j) = false := by simpa using hij
  have h2 : (j == i) = false := by simpa using Ne.symm hij
  cases hw : r.isWrite <;> cases hw' : r'.we <;> simp [evOfReq, hc, hc', hw, hw', conflict, conflict1, h1, h2]

theorem bm_pair_noconflict (c : Controller.Cfg) (s : State) (ins : Array BankIn) (i j : Nat) (hij : i ≠ j) (a b : Ev)
    (ha : bmEv c s ins i = some a) (hb : bmEv c s ins j = some b) : conflict (reqOf c) a b = false := by
  obtain ⟨rfl, hi⟩ := bmEv_from c s ins i a ha
  obtain ⟨rfl, hj⟩ := bmEv_from c s ins j b hb
  rcases hi with ⟨hai, hgi⟩ | ⟨hai, hgi⟩ <;> rcases hj with ⟨haj, hgj⟩ | ⟨haj, hgj⟩
  · exact absurd (hgi.symm.trans hgj) hij
  · have ac := cmd_acc c s ins haj
    exact col_row_noconflict _ _ _ i j _ _ hij (hgi ▸ (req_acc c s ins hai).col ac.multi) (hgj ▸ ac.row)
  · have ac := cmd_acc c s ins hai
    rw [conflict, Bool.or_comm]
    exact col_row_noconflict _ _ _ j i _ _ hij.symm (hgj ▸ (req_acc c s ins haj).col ac.multi) (hgi ▸ ac.row)
  · exact absurd (hgi.symm.trans hgj) hij

theorem evs_exclusive (c : Controller.Cfg) (hab : 11 ≤ c.bm.abits) (s : State) (ins : Array BankIn) :
    exclusive (reqOf c) (evsOf c s ins) = true := by
  rw [exclusive_iff, evsOf, List.pairwise_append]
  refine ⟨?_, ?_, ?_⟩
  · rw [List.pairwise_filterMap]
    refine List.Pairwise.imp_of_mem ?_ (List.pairwise_lt_range (n := c.nbm))
    intro i j hi hj hlt a ha b hb
    exact bm_pair_noconflict c s ins i j (Nat.ne_of_lt hlt) a b ha hb
  · cases rfEv c s <;> simp
  · intro a ha b hb
    obtain ⟨j, hj, haj⟩ := List.mem_filterMap.mp ha
    have hrf : rfEv c s = some b := by simpa using hb
    have hfsm := (rfEv_acc c s b hrf).2
    rw [bmEv_eq, bmReady_inactive c s ins j (by rw [hfsm]; nofun) (by rw [hfsm]; nofun)] at haj
    cases haj

theorem refresh_ages (c : Controller.Cfg) (s : State) (ins : Array BankIn) (m : St) (q : Req) (j : Nat)
    (hf : (s.bms[j]!).fsm = .refresh) :
    (advance q m (evsOf c s ins)).act j = tick (m.act j) ∧ (advance q m (evsOf c s ins)).wr j = tick (m.wr j) ∧
    (advance q m (evsOf c s ins)).pre j = (if preaOf c s then some 1 else tick (m.pre j)) := by
  have hv : (reqJ c s ins j).valid = false := no_cmd_in_refresh _ _ _ _ _ _ hf
  have := adv_bank c s ins m q j
  simp only [cmdOfBm_eq, classify, hv, Bool.false_eq_true, if_false, ite_self] at this
  exact ⟨congrArg BAges.act this, congrArg BAges.wr this, congrArg BAges.pre this⟩

/-- the second conjunct is the window test of `TimingMon.step`, from `minv_step` -/
theorem tinv_step (c : Controller.Cfg) (hwf : WF3 c) (s : State) (g : Ghost) (ins : Array BankIn) (m : St)
    (hc : CInv c s g) (ht : TInv c s g m) :
    TInv c (step c s ins).1 (gNext c s g ins) (advance (reqOf c) m (evsOf c s ins)) ∧
    (((advance (reqOf c) m (evsOf c s ins)).win.filter id).length ≤ 4) := by
  have hexit : s.fsm = .refresh → (roOf c s).last = true → ok m.wrAny c.twtr = true := by
    intro _ hl
    obtain ⟨hv, hin⟩ := (RefresherInv.out_last_valid c.rf s.rf).1 hl
    obtain ⟨_, _, hwr⟩ := episode_end c hwf s g m hc ht hin hv
    exact hwr
  obtain ⟨hmux, hwin⟩ := minv_step c s ins m ht.mux hexit
  obtain ⟨hp, _, _⟩ := adv_rf c s ins m (reqOf c)
  refine ⟨{ mux := hmux, bm := fun j hj => (binv_at c hwf s g ins m hc ht j hj).inv, rt := (rt_at c hwf s g ins m hc ht).2,
            preEq := ?preEq, wrOld := ?wrOld, wrZq := ?wrZq, gnt := ?gnt }, hwin⟩
  case preEq =>
    intro hpd j hj
    obtain ⟨_, hfr, hor⟩ := gnext_pd c s g ins hc hpd
    rw [(refresh_ages c s ins m _ j (hc.muxRef hfr j hj)).2.2, hp, ← preaOf_eq]
    cases hpa : preaOf c s
    · simp [RfTiming.upd, ht.preEq (hor hpa) j hj]
    · simp [RfTiming.upd]
  case wrOld =>
    intro hpd t hok
    obtain ⟨_, hfr, hor⟩ := gnext_pd c s g ins hc hpd
    rw [wrAny_tick c s ins m (by rw [hfr]; nofun)]
    rw [hp, ← preaOf_eq] at hok
    cases hpa : preaOf c s <;> simp only [RfTiming.upd, hpa, Bool.false_eq_true, if_false, if_true] at hok
    · exact tick_older _ _ (ht.wrOld (hor hpa)) t hok
    · -- the precharge-all is taken in this cycle, so its age is 1, and no write is younger than that
      simp at hok
      cases hw : m.wrAny <;> simp; omega
  case wrZq =>
    rw [step_rf]
    intro hz'
    -- DO-ZQCS is entered at the end of the refresh sequence, tRP + tRFC after its precharge-all, or kept
    have key : RefresherInv.inRef s.rf.fsm = true ∧ ok m.wrAny (c.rf.tRP + c.rf.tRFC) = true := by
      rcases RefresherInv.doZqcs_pred c.rf s.rf _ hz' with ⟨e, hzs⟩ | ⟨e, _⟩
      · simp only [RefresherInv.zqStart, Refresher.seqDone, Bool.and_eq_true] at hzs
        exact ⟨by simp [RefresherInv.inRef, e], ht.wrOld (hc.rf.exDone_pd e hzs.1.2.1) _ (ht.rt.ex.preaDone e hzs.1.2.1)⟩
      · exact ⟨by simp [RefresherInv.inRef, e], ht.wrZq e⟩
    rw [wrAny_tick c s ins m (by rw [hc.inRef key.1]; nofun)]
    exact ok_tick _ _ key.2
  case gnt =>
    rw [step_fsm]
    intro hn j hj
    -- REFRESH is entered when every bank machine grants (its tRAS and tWTP timers ready), or kept
    have hfacts : (s.bms[j]!).fsm = .refresh ∧ ok (m.act j) (c.bm.tRAS.getD 0) = true ∧ ok (m.wr j) c.bm.twtp = true := by
      rcases (mux_next_refresh c s ins).mp hn with ⟨_, hgo⟩ | ⟨hr', _⟩
      · exact ⟨bms_refresh_of_goRefresh c s ins hgo j hj, (binv_at c hwf s g ins m hc ht j hj).gnt ((reqs_all c s ins _).mp hgo j hj)⟩
      · exact ⟨hc.muxRef hr' j hj, ht.gnt hr' j hj⟩
    obtain ⟨e1, e2, _⟩ := refresh_ages c s ins m (reqOf c) j hfacts.1
    rw [e1, e2]
    exact ⟨ok_tick _ _ hfacts.2.1, ok_tick _ _ hfacts.2.2⟩

theorem tinv_init (c : Controller.Cfg) : TInv c (init c) g0 (St.init (reqOf c)) where
  mux := minv_init c
  bm j hj := by
    rw [init_bms c j hj]
    exact { wtp := txage_init _, ras := txage_init _, rc := txage_init _, apw := by simp [agesOf, St.init],
            fsmI := by simp [BmTiming.FsmI, BankMachine.State.init, agesOf, St.init] }
  rt := RfTiming.rtinv_init c.rf
  preEq h := by simp [g0] at h
  wrOld h := by simp [g0] at h
  wrZq h := by simp [init, Refresher.init] at h
  gnt h := by simp [init] at h

end CtlTiming
