/-
An inductive invariant of `Model/Refresher.lean` on its own.
It says which command the refresher's registered outputs show as a function of the two timeline
counters, that the two executers never run at the same time, and - through the ghost `pd`
("precharge-all already accepted in this refresh episode") - that REF / ZQC are only shown after the
precharge-all of the same episode was accepted.  The *phantom* executions that the sequencer performs
right after reset when `postponing > 1` (its counter resets to `postponing − 1`) are shown to be over
before the first refresh request, under `tRP + tRFC + 1 ≤ tREFI`.
-/
import LitedramVerif.Proofs.RfStep
import LitedramVerif.Proofs.NatBits
namespace RefresherInv
open Hw Refresher

/-- an event that fires at counter value `k` is registered as the counter moves on: the precharge-all shows at 1, REF / ZQC at `tRP + 1` -/
def expected (c : Cfg) (s : State) : RCmd :=
  if s.zqCounter = 1 then .prea else if s.zqCounter = c.tRP + 1 then .zqc
  else if s.exCounter = 1 then .prea else if s.exCounter = c.tRP + 1 then .ref else .none

/-- `tRP` keeps the events of a time line at distinct counter values (`tRFC`, `tZQ`: the REF / ZQC at `tRP + 1` is not the last event,
read by the accounting of Proofs/RefreshRate only), `abits` lets A10 fit the address register, `post` puts the reset value
`postponing - 1` below `postponing`, `phantom` lets one execution end within a `tREFI` (`inv_init`) -/
structure WF (c : Cfg) : Prop where
  tRP : 1 ≤ c.tRP
  tRFC : 1 ≤ c.tRFC
  tZQ : ∀ z, c.tZQCS = some z → 1 ≤ z
  abits : 11 ≤ c.abits
  post : 1 ≤ c.postponing
  phantom : c.tRP + c.tRFC + 1 ≤ c.tREFI

/-- cycles the reset-time phantom executions still need -/
def W (c : Cfg) (s : State) : Nat :=
  let M := c.tRP + c.tRFC + 1
  -- at rest with executions left, one starts with this edge: after `exDone` `seqCount` counts it off now, at reset (no `exDone`) never
  s.seqCount * M + (if s.exCounter ≠ 0 then M - s.exCounter else if s.seqCount ≠ 0 then (if s.exDone then 0 else M) else 0)

/-- cycles until the postponer can raise its first request -/
def Tr (c : Cfg) (s : State) : Nat := s.postCount * c.tREFI + s.timerCount + 1

/-- the reset-time executions still run: no request so far, and none before they are over (`W ≤ Tr`, both run down by one per edge) -/
def Phantom (c : Cfg) (s : State) : Prop :=
  s.reqO = false ∧ W c s ≤ Tr c s ∧ s.postCount < c.postponing ∧ s.timerCount < c.tREFI

def inRef (f : Fsm) : Bool := f == .doRefresh || f == .doZqcs

structure Inv (c : Cfg) (s : State) (pd : Bool) : Prop where
  cntLe : s.exCounter ≤ c.tRP + c.tRFC
  zcntLe : s.zqCounter ≤ c.tRP + c.tZQCS.getD 0
  excl : s.exCounter = 0 ∨ s.zqCounter = 0
  regs : regsAre c s (expected c s)
  /-- a done flag is up for the one cycle after its time line's last event, when the counter is back at 0 -/
  exDone0 : s.exDone = true → s.exCounter = 0
  zqDone0 : s.zqDone = true → s.zqCounter = 0
  zqNone : c.tZQCS = none → s.zqCounter = 0 ∧ s.fsm ≠ .doZqcs
  /-- DO-REFRESH: the episode's precharge-all has been accepted (`pd`) or is on the registers in this, the state's first, cycle
  (counter 1), in which `ready` holds (`hr` of `inv_step`) -/
  fsmI : match s.fsm with
    | .idle => s.zqCounter = 0 ∧ ((s.exCounter = 0 ∧ s.seqCount = 0) ∨ Phantom c s)
    | .waitBm => s.zqCounter = 0 ∧ s.exCounter = 0 ∧ s.seqCount = 0
    | .doRefresh => s.zqCounter = 0 ∧ (pd = true ∨ s.exCounter = 1)
    | .doZqcs => s.exCounter = 0 ∧ s.seqCount = 0 ∧ pd = true

/-- the refresher's command is accepted (`valid & ready`) and is the precharge-all -/
def preaAcc (c : Cfg) (s : State) (ready : Bool) : Bool :=
  (out c s).valid && ready && s.ras && s.we && !s.cas

def pd' (c : Cfg) (s : State) (ready pd : Bool) : Bool :=
  inRef (step c s ready).fsm && (pd || preaAcc c s ready)

theorem WF.lastEx_ne {c : Cfg} (h : WF c) : c.tRP + c.tRFC ≠ 0 := by have := h.tRP; omega

theorem expected_rest (c : Cfg) (s : State) (hx : s.exCounter = 0) (hz : s.zqCounter = 0) : expected c s = .none := by
  simp [expected, hx, hz]

theorem expected_prea (c : Cfg) (s : State) (hz : s.zqCounter = 0) (hx : s.exCounter = 1) : expected c s = .prea := by
  simp [expected, hz, hx]

structure ZqStart (c : Cfg) (s : State) : Prop where
  fsm : s.fsm = .doRefresh
  exRest : s.exCounter = 0
  seqRest : s.seqCount = 0
  zqSome : c.tZQCS.isSome = true

section
variable {c : Cfg} {s : State} {pd : Bool} (h : Inv c s pd)
include h

theorem Inv.zqRest (hfs : s.fsm ≠ .doZqcs) : s.zqCounter = 0 := by
  have hf := h.fsmI
  cases hs : s.fsm <;> simp only [hs] at hf hfs <;> first | exact hf.1 | exact absurd rfl hfs

theorem Inv.zqRun (hq : s.zqCounter ≠ 0) : s.fsm = .doZqcs :=
  Decidable.byContradiction fun hn => hq (h.zqRest hn)

theorem Inv.exRest (hfs : s.fsm = .doZqcs ∨ s.fsm = .waitBm) : s.exCounter = 0 ∧ s.seqCount = 0 := by
  have hf := h.fsmI
  rcases hfs with hs | hs <;> simp only [hs] at hf
  · exact ⟨hf.1, hf.2.1⟩
  · exact ⟨hf.2.1, hf.2.2⟩

theorem Inv.zqSome (hfs : s.fsm = .doZqcs) : c.tZQCS.isSome = true := by
  cases hz : c.tZQCS with
  | none => exact absurd hfs (h.zqNone hz).2
  | some z => rfl

theorem Inv.exDone_pd (hfs : s.fsm = .doRefresh) (hx : s.exDone = true) : pd = true := by
  have hf := h.fsmI
  simp only [hfs] at hf
  rcases hf.2 with hp | h1
  · exact hp
  · have := h.exDone0 hx; omega

theorem Inv.seqDone_rest (hd : seqDone s = true) : s.exDone = true ∧ s.exCounter = 0 ∧ s.seqCount = 0 := by
  simp only [seqDone, Bool.and_eq_true, beq_iff_eq] at hd
  exact ⟨hd.1, h.exDone0 hd.1, hd.2⟩

theorem Inv.ofZqStart (hs : zqStart c s = true) : ZqStart c s := by
  simp only [zqStart, wantsZqcs, Bool.and_eq_true, beq_iff_eq] at hs
  have r := h.seqDone_rest hs.1.2
  exact { fsm := hs.1.1, exRest := r.2.1, seqRest := r.2.2, zqSome := hs.2.1 }

end

theorem W_step (c : Cfg) (hwf : WF c) (s : State) (ready : Bool)
    (hcnt : s.exCounter ≤ c.tRP + c.tRFC) (hexd : s.exDone = true → s.exCounter = 0) (hfs : s.fsm = .idle) :
    W c (step c s ready) + 1 ≤ W c s ∨ ((step c s ready).exCounter = 0 ∧ (step c s ready).seqCount = 0) := by
  have hL := hwf.lastEx_ne
  have hcnt' := step_exCounter c s ready
  rw [tl_next _ _ _ hL hcnt, show exStart s ready = (s.seqCount != 0) by simp [exStart, hfs]] at hcnt'
  have hexd' := step_exDone c s ready
  rw [fires_pos _ _ _ hL] at hexd'
  have hseq' := step_seqCount c s ready
  simp only [hfs, show (Fsm.idle == Fsm.waitBm) = false from rfl, Bool.false_and, Bool.false_eq_true, if_false] at hseq'
  unfold W
  rw [hcnt', hseq', hexd']
  generalize c.tRP + c.tRFC = L at *
  by_cases h0 : s.exCounter = 0
  · rcases hsq : s.seqCount with _ | k
    · exact Or.inr (by simp [h0, hL.symm])
    · left; cases s.exDone <;> simp [h0, hL.symm, Nat.succ_mul] <;> omega
  · have hd : s.exDone = false := Bool.eq_false_iff.2 (mt hexd h0)
    left
    by_cases hl : s.exCounter = L
    · rcases s.seqCount with _ | k <;> simp [hl, hd, hL]
    · simp [h0, hl, hd]; omega

structure TrEdge (c : Cfg) (r r' : State) : Prop where
  rng : r'.postCount < c.postponing ∧ r'.timerCount < c.tREFI
  req : r'.reqO = true ↔ Tr c r = 1
  reload : Tr c r = 1 → Tr c r' = c.postponing * c.tREFI
  dec : Tr c r ≠ 1 → Tr c r' + 1 = Tr c r

theorem tr_step (c : Cfg) (r : State) (ready : Bool) (hp : r.postCount < c.postponing) (ht : r.timerCount < c.tREFI) :
    TrEdge c r (step c r ready) := by
  have htc := step_timerCount c r ready
  obtain ⟨hpc, hrq⟩ := step_post c r ready hp
  by_cases htm : r.timerCount = 0
  · by_cases hpc0 : r.postCount = 0
    · have := NatBits.pred_mul_add c.tREFI (show 1 ≤ c.postponing by omega)
      constructor <;> simp [Tr, htc, hpc, hrq, htm, hpc0] <;> omega
    · have := NatBits.pred_mul_add c.tREFI (Nat.pos_of_ne_zero hpc0)
      constructor <;> simp [Tr, htc, hpc, hrq, htm, hpc0] <;> omega
  · constructor <;> simp [Tr, htc, hpc, hrq, htm] <;> omega

theorem W_zero (c : Cfg) (s : State) (hcnt : s.exCounter ≤ c.tRP + c.tRFC) (h : W c s = 0) : s.exCounter = 0 ∧ s.seqCount = 0 := by
  unfold W at h
  dsimp only at h
  by_cases h0 : s.exCounter = 0
  · refine ⟨h0, ?_⟩
    rcases hs : s.seqCount with _ | k
    · rfl
    · rw [hs, Nat.succ_mul] at h; omega
  · simp only [h0, ne_eq, not_false_eq_true, if_true] at h; omega

theorem phantom_step (c : Cfg) (hwf : WF c) (s : State) (ready : Bool)
    (hcnt : s.exCounter ≤ c.tRP + c.tRFC) (hexd : s.exDone = true → s.exCounter = 0)
    (hfs : s.fsm = .idle) (hp : Phantom c s) :
    ((step c s ready).exCounter = 0 ∧ (step c s ready).seqCount = 0) ∨ Phantom c (step c s ready) := by
  obtain ⟨hreq, hw, hpost, htim⟩ := hp
  rcases W_step c hwf s ready hcnt hexd hfs with hW | h0
  · by_cases hTr : Tr c s = 1
    · -- the request is raised now: `Tr = 1`, so the executions end with this edge
      refine Or.inl (W_zero c _ ?_ (by omega))
      rw [step_exCounter, tl_next _ _ _ hwf.lastEx_ne hcnt]; exact tl_next_le _ _ _ hwf.lastEx_ne hcnt
    · have e := tr_step c s ready hpost htim
      have := e.dec hTr
      exact Or.inr ⟨Bool.eq_false_iff.mpr fun hq => hTr (e.req.mp hq), by omega, e.rng.1, e.rng.2⟩
  · exact Or.inl h0

structure Edge (c : Cfg) (s : State) (ready : Bool) : Prop where
  ex : (step c s ready).exCounter = if s.exCounter = c.tRP + c.tRFC then 0
    else if s.exCounter = 0 then (if exStart s ready then 1 else 0) else s.exCounter + 1
  exDone : (step c s ready).exDone = (s.exCounter == c.tRP + c.tRFC)
  zq : (step c s ready).zqCounter = if s.zqCounter = c.tRP + c.tZQCS.getD 0 then 0
    else if s.zqCounter = 0 then (if zqStart c s then 1 else 0) else s.zqCounter + 1
  zqDone : (step c s ready).zqDone = if c.tZQCS.isSome then s.zqCounter == c.tRP + c.tZQCS.getD 0 else s.zqDone
  zqSome : (step c s ready).fsm = .doZqcs → c.tZQCS.isSome = true
  exEnter : (step c s ready).fsm = .doRefresh → s.exCounter ≠ 0 → s.fsm = .doRefresh
  exStay : s.fsm = .doRefresh → s.exCounter ≠ 0 → (step c s ready).fsm = .doRefresh
  zqEnter : (step c s ready).fsm = .doZqcs → s.zqCounter ≠ 0 → s.fsm = .doZqcs
  zqStay : s.fsm = .doZqcs → s.zqCounter ≠ 0 → (step c s ready).fsm = .doZqcs

theorem Inv.edge {c : Cfg} {s : State} {pd : Bool} (h : Inv c s pd) (hwf : WF c) (ready : Bool) : Edge c s ready where
  ex := by rw [step_exCounter, tl_next _ _ _ hwf.lastEx_ne h.cntLe]
  exDone := by rw [step_exDone, fires_pos _ _ _ hwf.lastEx_ne]
  zq := by
    have hrp := hwf.tRP
    cases hz : c.tZQCS with
    | none =>
      have : ¬ 0 = c.tRP := by omega
      simp [(step_zq_none c s ready hz).1, (h.zqNone hz).1, zqStart_none c s hz, this]
    | some z =>
      rw [(step_zq_some c s ready z hz).1, tl_next _ _ _ (by omega) (by simpa [hz] using h.zcntLe)]; rfl
  zqDone := by
    have hrp := hwf.tRP
    cases hz : c.tZQCS with
    | none => simp [(step_zq_none c s ready hz).2]
    | some z => simp [(step_zq_some c s ready z hz).2, fires_pos _ _ _ (by omega : c.tRP + z ≠ 0)]
  zqSome hfs' := by
    rcases doZqcs_pred c s ready hfs' with ⟨_, hst⟩ | ⟨hfs, _⟩
    · exact (h.ofZqStart hst).zqSome
    · exact h.zqSome hfs
  exEnter hfs' hne := by
    rcases doRefresh_pred c s ready hfs' with ⟨hfs, _⟩ | ⟨hfs, _⟩
    · exact absurd (h.exRest (Or.inr hfs)).1 hne
    · exact hfs
  -- the FSM leaves DO-REFRESH on `seqDone`, which needs `exDone`, and DO-ZQCS on `zqDone`: either flag is up only at counter 0
  exStay hfs hne := by
    have : seqDone s = false := Bool.eq_false_iff.2 fun hd => hne (h.seqDone_rest hd).2.1
    simp [step_fsm, fsmNext, hfs, this]
  zqEnter _ hne := h.zqRun hne
  zqStay hfs hne := by simp [step_fsm, fsmNext, hfs, Bool.eq_false_iff.2 (mt h.zqDone0 hne)]

theorem Edge.ex_rest {c : Cfg} {s : State} {ready : Bool} (e : Edge c s ready) (h0 : s.exCounter = 0) (hs : s.seqCount = 0)
    (hw : s.fsm = .waitBm → ready = false) : (step c s ready).exCounter = 0 ∧ (step c s ready).seqCount = 0 := by
  have hst : (s.fsm == .waitBm && ready) = false := by cases ready <;> simp_all
  refine ⟨by simp [e.ex, h0, exStart, hst, hs], by simp [step_seqCount, hst, hs]⟩

theorem Edge.zq_rest {c : Cfg} {s : State} {ready : Bool} (e : Edge c s ready) (h0 : s.zqCounter = 0) (hst : zqStart c s = false) :
    (step c s ready).zqCounter = 0 := by
  simp [e.zq, h0, hst]

theorem Inv.expected_step {c : Cfg} {s : State} {pd : Bool} (h : Inv c s pd) (hwf : WF c) (ready : Bool) :
    expected c (step c s ready) = (zqEvent c s).getD (exEvent c s ready) := by
  have e := h.edge hwf ready
  have hrp := hwf.tRP
  have hzcnt := h.zcntLe
  unfold expected exEvent zqEvent
  rw [e.zq, e.ex]
  cases hz : c.tZQCS with
  | none =>
    simp only [(h.zqNone hz).1, zqStart_none c s hz, Option.bind_none, Option.getD_none]
    grind
  | some z =>
    simp only [hz, Option.bind_some, Option.getD_some] at hzcnt ⊢
    by_cases hq : s.zqCounter = 0
    · have n1 : ¬ 0 = c.tRP + z := by omega
      have n2 : ¬ 0 = c.tRP := by omega
      cases hst : zqStart c s <;> simp [hq, n1, n2]
      grind
    · -- at the ZQ chain's last event `expected` falls through to the refresh executer, which rests and is not started
      have hfs := h.zqRun hq
      obtain ⟨h0, hs0⟩ := h.exRest (Or.inl hfs)
      have hst : exStart s ready = false := by simp [exStart, hfs, hs0]
      grind

/-- `hr`: while the refresher is in DO-REFRESH / DO-ZQCS the multiplexer is in REFRESH and takes its commands; it makes the
precharge-all shown at counter 1 an accepted one -/
theorem inv_step (c : Cfg) (hwf : WF c) (s : State) (pd ready : Bool) (h : Inv c s pd)
    (hr : inRef s.fsm = true → ready = true) : Inv c (step c s ready) (pd' c s ready pd) := by
  have e := h.edge hwf ready
  have hf := h.fsmI
  have hrp := hwf.tRP
  have hfsm' := step_fsm c s ready
  constructor
  case cntLe => rw [e.ex]; exact tl_next_le _ _ _ (by omega) h.cntLe
  case zcntLe => rw [e.zq]; exact tl_next_le _ _ _ (by omega) h.zcntLe
  case regs => rw [h.expected_step hwf]; exact step_regs c s ready hrp hwf.abits
  case exDone0 => exact fun hd => by rw [e.ex, if_pos (by simpa [e.exDone] using hd)]
  case zqDone0 =>
    intro hd
    rw [e.zqDone] at hd
    cases hz : c.tZQCS with
    | none => exact e.zq_rest (h.zqNone hz).1 (zqStart_none c s hz)
    | some z => rw [e.zq, if_pos (by simpa [hz] using hd)]
  case zqNone =>
    intro hz
    refine ⟨e.zq_rest (h.zqNone hz).1 (zqStart_none c s hz), fun hfs' => ?_⟩
    simpa [hz] using e.zqSome hfs'
  case excl =>
    -- a start strobe of one executer finds the other at rest and not started
    by_cases hq : s.zqCounter = 0
    · cases hst : zqStart c s
      · exact Or.inr (e.zq_rest hq hst)
      · have z := h.ofZqStart hst
        exact Or.inl (e.ex_rest z.exRest z.seqRest (by simp [z.fsm])).1
    · have hfs := h.zqRun hq
      obtain ⟨h0, hs0⟩ := h.exRest (Or.inl hfs)
      exact Or.inl (e.ex_rest h0 hs0 (by simp [hfs])).1
  case fsmI =>
    have hL : ¬ 0 = c.tRP + c.tRFC := by omega
    rw [hfsm']
    cases hfs : s.fsm <;> simp only [hfs, fsmNext] at hf ⊢
    · have hzq0 := e.zq_rest hf.1 (by simp [zqStart, hfs])
      rcases hf.2 with ⟨he, hs⟩ | hph
      · have hex0 := e.ex_rest he hs (by simp [hfs])
        by_cases hq : (c.withRefresh && s.reqO) = true
        · simp only [hq, if_true]; exact ⟨hzq0, hex0⟩
        · simp only [hq]; exact ⟨hzq0, Or.inl hex0⟩
      · have hreq : s.reqO = false := hph.1
        simp only [hreq, Bool.and_false, Bool.false_eq_true, if_false]
        exact ⟨hzq0, phantom_step c hwf s ready h.cntLe h.exDone0 hfs hph⟩
    · have hzq0 := e.zq_rest hf.1 (by simp [zqStart, hfs])
      cases ready
      · exact ⟨hzq0, e.ex_rest hf.2.1 hf.2.2 fun _ => rfl⟩
      · exact ⟨hzq0, Or.inr (by simp [e.ex, hf.2.1, exStart, hfs, hL])⟩
    · obtain rfl : ready = true := hr (by simp [inRef, hfs])
      have hz0 : s.zqCounter = 0 := hf.1
      by_cases hsd : seqDone s = true
      · obtain ⟨hxd, hx0, hs0⟩ := h.seqDone_rest hsd
        have hpdt := h.exDone_pd hfs hxd
        have hex0 := e.ex_rest hx0 hs0 (by simp [hfs])
        by_cases hw : wantsZqcs c s = true
        · simp only [hsd, hw, if_true]
          exact ⟨hex0.1, hex0.2, by simp [pd', hfsm', fsmNext, hfs, hsd, hw, inRef, hpdt]⟩
        · simp only [hsd, hw, if_true, if_false, Bool.false_eq_true]
          exact ⟨e.zq_rest hz0 (by simp [zqStart, hw]), Or.inl hex0⟩
      · simp only [hsd, if_false, Bool.false_eq_true]
        refine ⟨e.zq_rest hz0 (by simp [zqStart, hsd]), Or.inl ?_⟩
        rcases hf.2 with hp | h1
        · simp [pd', hfsm', fsmNext, hfs, hsd, inRef, hp]
        · have hregs := h.regs
          rw [expected_prea c s hz0 h1] at hregs
          simp [regsAre] at hregs
          simp [pd', hfsm', fsmNext, hfs, hsd, inRef, preaAcc, out_doRefresh c s hfs, hregs]
    · have hex0 := e.ex_rest hf.1 hf.2.1 (by simp [hfs])
      by_cases hzd : s.zqDone = true
      · simp only [hzd, if_true]
        exact ⟨e.zq_rest (h.zqDone0 hzd) (by simp [zqStart, hfs]), Or.inl hex0⟩
      · simp only [hzd, if_false, Bool.false_eq_true]
        exact ⟨hex0.1, hex0.2, by simp [pd', hfsm', fsmNext, hfs, hzd, inRef, hf.2.2]⟩

theorem inv_init (c : Cfg) (hwf : WF c) : Inv c (init c) false := by
  constructor
  case regs => rw [expected_rest c (init c) rfl rfl]; simp [regsAre, init]
  case fsmI =>
    have hph := hwf.phantom; have hP := hwf.post
    show (init c).zqCounter = 0 ∧ (((init c).exCounter = 0 ∧ (init c).seqCount = 0) ∨ Phantom c (init c))
    simp only [init, Phantom]
    refine ⟨trivial, ?_⟩
    by_cases hp1 : c.postponing = 1
    · left; simp [hp1]
    · right
      refine ⟨trivial, ?_, by omega, by omega⟩
      simp only [W, Tr]
      obtain ⟨k, hk⟩ : ∃ k, c.postponing = k + 2 := ⟨c.postponing - 2, by omega⟩
      simp [hk]
      have h1 : (k + 1) * (c.tRP + c.tRFC + 1) ≤ (k + 1) * c.tREFI := Nat.mul_le_mul_left _ hph
      omega
  all_goals simp [init]

/-- what an accepted refresher command can be: nothing, the precharge-all, or - only after the precharge-all of this
episode was accepted - auto-refresh / ZQ calibration -/
theorem acc_cases (c : Cfg) (s : State) (pd : Bool) (h : Inv c s pd) (hv : (out c s).valid = true) :
    regsAre c s .none ∨ regsAre c s .prea ∨ (pd = true ∧ (regsAre c s .ref ∨ regsAre c s .zqc)) := by
  have hregs := h.regs
  have hf := h.fsmI
  have any : pd = true → regsAre c s .none ∨ regsAre c s .prea ∨ (pd = true ∧ (regsAre c s .ref ∨ regsAre c s .zqc)) := by
    intro hp
    generalize expected c s = e at hregs
    cases e
    · exact Or.inl hregs
    · exact Or.inr (Or.inl hregs)
    · exact Or.inr (Or.inr ⟨hp, Or.inl hregs⟩)
    · exact Or.inr (Or.inr ⟨hp, Or.inr hregs⟩)
  cases hfs : s.fsm <;> simp only [hfs] at hf
  · rw [(out_idle c s hfs).1] at hv; cases hv
  · rw [expected_rest c s hf.2.1 hf.1] at hregs; exact Or.inl hregs
  · rcases hf.2 with hp | h1
    · exact any hp
    · rw [expected_prea c s hf.1 h1] at hregs; exact Or.inr (Or.inl hregs)
  · exact any hf.2.2

theorem out_last_valid (c : Cfg) (s : State) :
    ((out c s).last = true → (out c s).valid = false ∧ inRef s.fsm = true) ∧
    (s.fsm ≠ .idle → (out c s).last = false → (out c s).valid = true) := by
  cases hf : s.fsm <;> simp [out_idle, out_waitBm, out_doRefresh, out_doZqcs, hf, inRef] <;> grind

theorem novalid_done (c : Cfg) (s : State) (hi : inRef s.fsm = true) (hv : (out c s).valid = false) :
    (s.fsm = .doRefresh ∧ s.exDone = true) ∨ (s.fsm = .doZqcs ∧ s.zqDone = true) := by
  cases hfs : s.fsm <;> simp [inRef, hfs] at hi
  · rw [(out_doRefresh c s hfs).1] at hv
    exact Or.inl ⟨rfl, by simp [seqDone] at hv; exact hv.1.1⟩
  · rw [(out_doZqcs c s hfs).1] at hv
    exact Or.inr ⟨rfl, by simpa using hv⟩

theorem Inv.novalid_pd {c : Cfg} {s : State} {pd : Bool} (h : Inv c s pd) (hi : inRef s.fsm = true)
    (hv : (out c s).valid = false) : pd = true := by
  rcases novalid_done c s hi hv with ⟨hfs, hx⟩ | ⟨hfs, _⟩
  · exact h.exDone_pd hfs hx
  · have hf := h.fsmI
    simp only [hfs] at hf
    exact hf.2.2

theorem next_idle (c : Cfg) (s : State) (ready : Bool) (h : (step c s ready).fsm = .idle) : (out c s).valid = false := by
  -- IDLE is kept, or entered from DO-REFRESH / DO-ZQCS on the very flags that take `valid` away
  rw [step_fsm] at h
  cases hf : s.fsm <;> simp [fsmNext, out_idle, out_waitBm, out_doRefresh, out_doZqcs, hf] at h ⊢ <;> grind

theorem next_inRef (c : Cfg) (s : State) (ready : Bool) (h : inRef (step c s ready).fsm = true) :
    (out c s).valid = true ∧ (out c s).last = false := by
  -- entered from WAIT-BANK-MACHINES (`valid`), or not left: the flags that end the state are the ones that raise `last`
  rw [step_fsm] at h
  cases hf : s.fsm <;> simp [fsmNext, out_idle, out_waitBm, out_doRefresh, out_doZqcs, hf, inRef] at h ⊢ <;> grind

theorem inRef_pred (c : Cfg) (s : State) (ready : Bool) (h : inRef (step c s ready).fsm = true) :
    (s.fsm = .waitBm ∧ ready = true) ∨ inRef s.fsm = true := by
  simp only [inRef, Bool.or_eq_true, beq_iff_eq] at h ⊢
  rcases h with h | h
  · exact (doRefresh_pred c s ready h).imp_right fun hd => Or.inl hd.1
  · exact Or.inr ((doZqcs_pred c s ready h).imp (·.1) (·.1))

end RefresherInv
