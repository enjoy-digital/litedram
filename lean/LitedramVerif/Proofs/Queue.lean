/-
A buffer is a queue when a clock edge conserves its entries and their order, `popped ++ held' = held ++ pushed`.  The circular
store (`window`) and the delay line (`shift`) are two such queues; `store_next` is for a history read back from the slots of a
store.
-/
import LitedramVerif.Proofs.NatBits
namespace Queue

/-- the induction step of "held ++ everything pushed from now on = everything popped from now on ++ held at the end" -/
theorem hist_cons {α : Type} {q q' pushed popped ins outs fin : List α}
    (hstep : popped ++ q' = q ++ pushed) (ih : q' ++ ins = outs ++ fin) :
    q ++ (pushed ++ ins) = (popped ++ outs) ++ fin := by
  rw [← List.append_assoc, ← hstep, List.append_assoc, ih, List.append_assoc]

theorem length_pop_push {α : Type} (l : List α) (pop push : Bool) (d : α) (h : pop = true → l ≠ []) :
    ((if pop then l.tail else l) ++ (if push then [d] else [])).length + (if pop then 1 else 0) =
      l.length + (if push then 1 else 0) := by
  cases hp : pop <;> cases push <;> simp
  all_goals have := List.length_pos_iff.mpr (h hp); omega

/-- the entries held, oldest first -/
def window {α : Type} (get : Nat → α) (depth consume level : Nat) : List α :=
  (List.range level).map fun k => get ((consume + k) % depth)

theorem window_pop {α : Type} (get : Nat → α) {depth consume : Nat} (level : Nat) (hc : consume < depth) :
    window get depth consume (level + 1) = get consume :: window get depth ((consume + 1) % depth) level := by
  simp only [window, List.range_succ_eq_map, List.map_cons, List.map_map, Nat.add_zero, Nat.mod_eq_of_lt hc, Nat.mod_add_mod]
  congr 1
  apply List.map_congr_left
  intro k _
  simp only [Function.comp, Nat.succ_eq_add_one]
  congr 2
  omega

theorem window_push {α : Type} {get get' : Nat → α} {depth consume level : Nat} {d : α} (hl : level < depth)
    (hd : get' ((consume + level) % depth) = d) (hne : ∀ a, a ≠ (consume + level) % depth → get' a = get a) :
    window get' depth consume (level + 1) = window get depth consume level ++ [d] := by
  simp only [window, List.range_succ, List.map_append, List.map_cons, List.map_nil, hd]
  congr 1
  apply List.map_congr_left
  intro k hk
  have := List.mem_range.mp hk
  exact hne _ (NatBits.ring_slot_ne (consume + k) (consume + level) depth (by omega) (by omega))

/-- `hne` covers both cases: with `wr` low its premise is vacuous and every slot keeps its content -/
theorem window_step {α : Type} {get get' : Nat → α} {depth consume level : Nat} {wr rd : Bool} {d : α} (hc : consume < depth)
    (hw : wr = true → level < depth) (hr : rd = true → 0 < level)
    (hd : wr = true → get' ((consume + level) % depth) = d)
    (hne : ∀ a, (wr = true → a ≠ (consume + level) % depth) → get' a = get a) :
    (if rd then [get consume] else []) ++
        window get' depth (if rd then (consume + 1) % depth else consume) (level + (if wr then 1 else 0) - (if rd then 1 else 0)) =
      window get depth consume level ++ (if wr then [d] else []) := by
  have push : wr = true → window get' depth consume (level + 1) = window get depth consume level ++ [d] := fun e =>
    window_push (hw e) (hd e) (fun a ha => hne a fun _ => ha)
  have same : wr = false → get' = get := fun e => funext fun a => hne a (fun h => by simp [e] at h)
  cases wr <;> cases rd <;>
    simp only [if_true, Bool.false_eq_true, if_false, Nat.add_zero, Nat.sub_zero, List.nil_append, List.append_nil]
  · rw [same rfl]
  · obtain ⟨n, rfl⟩ : ∃ n, level = n + 1 := ⟨level - 1, by have := hr rfl; omega⟩
    rw [same rfl, window_pop get n hc, Nat.add_sub_cancel, List.singleton_append]
  · exact push rfl
  · obtain ⟨n, rfl⟩ : ∃ n, level = n + 1 := ⟨level - 1, by have := hr rfl; omega⟩
    have h0 : get' consume = get consume := hne _ fun _ => by
      have := NatBits.ring_slot_ne consume (consume + (n + 1)) depth (by omega) (by have := hw rfl; omega)
      rwa [Nat.mod_eq_of_lt hc] at this
    rw [← push rfl, window_pop get' (n + 1) hc, h0, Nat.add_sub_cancel, List.singleton_append]

/-- two stages in series are a queue: the second stage's input is what the first lets go -/
theorem conserve_comp {α : Type} {qa qa' qb qb' pushed mid popped : List α}
    (ha : mid ++ qa' = qa ++ pushed) (hb : popped ++ qb' = qb ++ mid) :
    popped ++ (qb' ++ qa') = (qb ++ qa) ++ pushed := by
  rw [← List.append_assoc, hb, List.append_assoc, ha, List.append_assoc]

theorem succ_mod_wrap (x depth : Nat) (hx : x < depth) : (if x == depth - 1 then 0 else x + 1) = (x + 1) % depth := by
  have : (x == depth - 1) = (x + 1 == depth) := Bool.eq_iff_iff.mpr (by simp only [beq_iff_eq]; omega)
  rw [this, NatBits.succ_wrap_eq_mod hx]

/-- `produce` stays `level` slots ahead of `consume` -/
theorem pointers_step {depth produce consume level : Nat} {wr rd : Bool} (hp : produce = (consume + level) % depth)
    (hr : rd = true → 0 < level) :
    (if wr then (produce + 1) % depth else produce) =
      ((if rd then (consume + 1) % depth else consume) + (level + (if wr then 1 else 0) - (if rd then 1 else 0))) % depth := by
  subst hp
  cases wr <;> cases rd <;>
    simp only [if_true, Bool.false_eq_true, if_false, Nat.add_zero, Nat.sub_zero, Nat.mod_add_mod]
  · congr 1; have := hr rfl; omega
  · rfl
  · congr 1; have := hr rfl; omega

theorem pointer_step_lt {depth x : Nat} (b : Bool) (hx : x < depth) : (if b then (x + 1) % depth else x) < depth := by
  split
  · exact Nat.mod_lt _ (Nat.zero_lt_of_lt hx)
  · exact hx

theorem level_step_le {depth level : Nat} {wr : Bool} (hl : level ≤ depth) (hw : wr = true → level < depth) (k : Nat) :
    level + (if wr then 1 else 0) - k ≤ depth := by
  have : level + (if wr then 1 else 0) ≤ depth := by
    split
    · exact hw ‹_›
    · exact hl
  omega

/-- `L` stages, newest first -/
def shift {α : Type} (L : Nat) (line : List α) (x : α) : List α := (x :: line).take L

theorem shift_foldl {α : Type} (L : Nat) (xs : List α) :
    ∀ line : List α, line.length ≤ L → xs.foldl (shift L) line = (xs.reverse ++ line).take L := by
  induction xs with
  | nil => intro line h; exact (List.take_of_length_le h).symm
  | cons x xs ih =>
    intro line _
    rw [List.foldl_cons, ih (shift L line x) (List.length_take_le _ _), shift, List.reverse_cons, List.append_assoc,
      List.singleton_append, List.take_append, List.take_append, List.take_take, Nat.min_eq_left (Nat.sub_le _ _)]

theorem shift_tap {α : Type} (L : Nat) (line : List α) (x : α) (rest : List α) (h : rest.length < L) (d : α) :
    (rest.foldl (shift L) (shift L line x)).getD rest.length d = x := by
  rw [shift_foldl L rest (shift L line x) (List.length_take_le _ _), List.getD_eq_getElem?_getD, List.getElem?_take_of_lt h,
    List.getElem?_append_right (by simp), List.length_reverse, Nat.sub_self, shift, List.take_cons (by omega)]
  rfl

/-- `ws`: all writes so far; `σ p`: the slot the `p`-th went to (`p % depth` in a ring); `π`: what is read of a stored element;
`lo`: the oldest entry not overwritten yet -/
theorem store_next {α β : Type} (mem : List α) (ws : List β) (σ : Nat → Nat) (π : α → β) (a0 : α) (b0 : β) (lo : Nat) (x : α)
    (hσ : σ ws.length < mem.length) (hinj : ∀ p, lo ≤ p → p < ws.length → σ p ≠ σ ws.length)
    (hmem : ∀ p, lo ≤ p → p < ws.length → π (mem.getD (σ p) a0) = ws.getD p b0) :
    ∀ p, lo ≤ p → p < ws.length + 1 → π ((mem.set (σ ws.length) x).getD (σ p) a0) = (ws ++ [π x]).getD p b0 := by
  intro p hp1 hp2
  by_cases hpl : p = ws.length
  · subst hpl
    rw [List.getD_eq_getElem?_getD, List.getElem?_set_self hσ]
    simp
  · have hpl' : p < ws.length := by omega
    rw [List.getD_eq_getElem?_getD, List.getElem?_set_ne (fun e => hinj p hp1 hpl' e.symm), ← List.getD_eq_getElem?_getD,
      hmem p hp1 hpl']
    simp [List.getD_eq_getElem?_getD, List.getElem?_append_left hpl']

end Queue
