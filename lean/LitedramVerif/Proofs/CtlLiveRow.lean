/-
Precharge / activate commands of a bank machine under *arbitrary* traffic, controllers with several phases (the command chooser
serves row commands only, the request chooser column commands only). Under traffic a turn-round may start whenever the FSM is
in READ/WRITE, so in `psiR` every step of `omegaA` pays for a whole one; while the refresher waits none starts and the two
terms simply add (`omegaB` of CtlLive0).
-/
import LitedramVerif.Proofs.CtlLive
namespace CtlLive
open Controller Hw CtlInv BmLive

open BmTiming in
theorem bmValid_stays (c : BankMachine.Cfg) (s : BankMachine.State) (i : BankMachine.In) (hv : bmValid s = true) (hr : i.ready = false) :
    bmValid (BankMachine.step c s i).1 = true := by
  -- nothing is accepted, so no timer gets a strobe, and PRECHARGE / ACTIVATE are only left by an accepted command
  have hn : cmdOfStep c s i = .nop := by rw [step_cmdS, hr, cmdS_idle]
  simp only [bmValid, Bool.or_eq_true, Bool.and_eq_true, beq_iff_eq] at hv
  rw [bmValid, step_nxt, step_twtp, step_tras, step_trc, hn, hr]
  rcases hv with ⟨⟨hf, h1⟩, h2⟩ | ⟨hf, h1⟩
  · simp [hf, nxt, tx_step_ready _ _ h1, tx_step_ready _ _ h2, h1, h2]
  · simp [hf, nxt, tx_step_ready _ _ h1, h1]

theorem not_refresh_of_valid (c : Cfg) (s : State) (g : Ghost) (h : CInv c s g) (b : Nat) (hb : b < c.nbm)
    (hv : bmValid s.bms[b]! = true) : s.fsm ≠ .refresh := by
  intro hr
  have := h.muxRef hr b hb
  simp [bmValid, this] at hv

/-- bound on the cycles until the row command of bank machine `b` is accepted, under any traffic -/
def psiR (c : Cfg) (s : State) (b : Nat) : Nat := omegaA c s b * (muxCap c + 1) + muxWait c s

theorem psiR_step (c : Cfg) (hone : (c.nphases == 1) = false) (s : State) (g : Ghost)
    (ins : Array BankIn) (h : CInv c s g) (hk : MOk c s) (b : Nat) (hb : b < c.nbm)
    (hv : bmValid s.bms[b]! = true) (hnr : bmReadyOf c s ins b = false) :
    bmValid (step c s ins).1.bms[b]! = true ∧ psiR c (step c s ins).1 b + 1 ≤ psiR c s b := by
  have hM0 := muxWait_active c s (not_refresh_of_valid c s g h b hb hv)
  obtain ⟨ra, ri⟩ := omegaA_step c hone s ins hk b hb hv (by rw [← bmReady_row c hone s ins b hv]; exact hnr)
  refine ⟨by rw [step_bms c s ins b hb]; exact bmValid_stays c.bm _ _ hv hnr, ?_⟩
  simp only [psiR]
  by_cases hact : s.fsm = .read ∨ s.fsm = .write
  · -- `omegaA` falls, which pays for a turn-round that may start now
    have h0 := hM0.mpr hact
    have h2 := muxWait_le c _ (mok_step c s ins hk)
    have := NatBits.mul_add_self_le (muxCap c + 1) (ra hact)
    omega
  · have h2 := (muxWait_turn c s ins hk (mt hM0.mp hact)).2
    have := Nat.mul_le_mul_right (muxCap c + 1) (ri hact)
    omega

theorem psiR_zero_of (c : Cfg) (hone : (c.nphases == 1) = false) (s : State) (g : Ghost) (ins : Array BankIn)
    (h : CInv c s g) (hk : MOk c s) (b : Nat) (hb : b < c.nbm) (hv : bmValid s.bms[b]! = true) (h0 : psiR c s b = 0) :
    bmReadyOf c s ins b = true := by
  have hM0 := muxWait_active c s (not_refresh_of_valid c s g h b hb hv)
  simp only [psiR] at h0
  have hA : omegaA c s b ≤ omegaA c s b * (muxCap c + 1) := Nat.le_mul_of_pos_right _ (Nat.succ_pos _)
  rw [bmReady_row c hone s ins b hv]
  exact omegaA_zero c hone s ins hk b hb hv (hM0.mp (by omega)) (by omega)

theorem psiR_zero (c : Cfg) (hab : 11 ≤ c.bm.abits) (hone : (c.nphases == 1) = false) (s : State) (g : Ghost) (ins : Array BankIn)
    (h : CInv c s g) (hk : MOk c s) (b : Nat) (hb : b < c.nbm) (hv : bmValid s.bms[b]! = true) (h0 : psiR c s b = 0) :
    bmReadyOf c s ins b = true := psiR_zero_of c hone s g ins h hk b hb hv h0

/-- `psiR` over all states (`psiR_le`) -/
def rowMax (c : Cfg) : Nat :=
  ((c.nbm - 1) * (rasInc c + 1) + (remMax c.tRRD + tfMax c.tFAW)) * (muxCap c + 1) + muxCap c

theorem psiR_le (c : Cfg) (s : State) (hk : MOk c s) (b : Nat) : psiR c s b ≤ rowMax c := by
  have h1 := muxWait_le c s hk
  have h2 := Nat.mul_le_mul_right (muxCap c + 1) (omegaA_le c s hk b)
  simp only [psiR, rowMax]; omega

theorem row_cmd_accepted_from (c : Cfg) (hwf : CtlInv.WF c) (hone : (c.nphases == 1) = false) (b : Nat)
    (hb : b < c.nbm) (inputs : List (Array BankIn)) (s : State) (g : Ghost) (h : CInv c s g) (hk : MOk c s)
    (hins : ∀ ins ∈ inputs, InsOk c ins) (hv : bmValid s.bms[b]! = true) (hlen : psiR c s b < inputs.length) :
    ∃ k, k ≤ psiR c s b ∧ bmReadyOf c (runCtl c s (inputs.take k)) (inputs.getD k default) b = true := by
  have := Run.reach_within (fun st i => (step c st i).1) (InsOk c) (fun s l => bmReadyOf c s (l.getD 0 default) b = true)
    (fun n s => ∃ g, CInv c s g ∧ MOk c s ∧ bmValid s.bms[b]! = true ∧ psiR c s b ≤ n)
    (fun s l ⟨g, h, hk, hv, hn⟩ => psiR_zero_of c hone s g _ h hk b hb hv (by omega))
    (fun n s i l ⟨g, h, hk, hv, hn⟩ hi => by
      cases hr : bmReadyOf c s i b
      · obtain ⟨hv', hd⟩ := psiR_step c hone s g i h hk b hb hv hr
        exact Or.inr ⟨_, (cinv_step c hwf s g i hi h).1, mok_step c s i hk, hv', by omega⟩
      · exact Or.inl hr)
    _ inputs s ⟨g, h, hk, hv, Nat.le_refl _⟩ hins (Nat.le_of_lt hlen)
  simpa [runCtl] using this

end CtlLive
