/-
Timing invariant of one bank machine against the ages kept by the specification monitor `Spec/TimingMon.lean` (cycles since the
bank's last ACT / precharge / WR / RD+AP / WR+AP): the accepted command is allowed by the monitor's per-bank rules (tRCD, tRP after
an explicit precharge or precharge-all, tRC, tRAS, tWTP, and after an auto-precharge tRP / tWTP+tRP / tRAS+tRP), and a granted
refresh implies that tRAS and tWTP have elapsed (`binv_step`).  For Props/C03_Controller.lean.
-/
import LitedramVerif.Props.C03
import LitedramVerif.Spec.TimingMon
namespace BmTiming
open BankMachine Hw TimingMon

@[simp] theorem ok_none (t : Nat) : ok none t = true := rfl
@[simp] theorem ok_some (x t : Nat) : ok (some x) t = decide (t ≤ x) := rfl
@[simp] theorem tick_none : tick none = none := rfl
@[simp] theorem tick_some (x : Nat) : tick (some x) = some (x + 1) := rfl

theorem tick_older (a b : Age) (h : ∀ t, ok a t = true → ok b t = true) (t : Nat) (ht : ok (tick a) t = true) :
    ok (tick b) t = true := by
  cases b with
  | none => rfl
  | some y =>
    cases a with
    | none => have := h (y + 1) rfl; simp [ok] at this; omega
    | some x => have := h x (by simp [ok]); simp [ok, tick] at this ht ⊢; omega

theorem ok_mono (a : Age) (t t' : Nat) (h : ok a t = true) (hle : t' ≤ t) : ok a t' = true := by
  cases a with
  | none => rfl
  | some k => simp at h ⊢; omega

@[simp] theorem ok_zero (a : Age) : ok a 0 = true := by cases a <;> simp

theorem ok_tick_eq (a : Age) (t : Nat) : ok (tick a) t = ok a (t - 1) := by
  cases a <;> simp

theorem ok_pred (a : Age) (t : Nat) (h : ok a t = true) : ok a (t - 1) = true := ok_mono a t _ h (Nat.sub_le _ _)

theorem ok_tick (a : Age) (t : Nat) (h : ok a t = true) : ok (tick a) t = true := ok_tick_eq a t ▸ ok_pred a t h

/-- the fields of `TimingMon.St` of these names (explained there), at one bank -/
structure BAges where
  act : Age
  pre : Age
  wr : Age
  apRd : Age
  apWr : Age
  apPend : Bool

def BAges.init : BAges := ⟨none, none, none, none, none, false⟩

/-- how `TimingMon.advance` moves them, given the bank machine's accepted command (`isWr`: the CAS is a write) and whether a
precharge-all is issued -/
def bAdvance (a : BAges) (cmd : C02.Cmd) (isWr prea : Bool) : BAges :=
  match cmd with
  | .act _ => { act := some 1, pre := if prea then some 1 else tick a.pre, wr := tick a.wr, apRd := tick a.apRd, apWr := tick a.apWr, apPend := false }
  | .pre => { act := tick a.act, pre := some 1, wr := tick a.wr, apRd := tick a.apRd, apWr := tick a.apWr, apPend := a.apPend }
  | .cas ap =>
    { act := tick a.act, pre := if prea then some 1 else tick a.pre, wr := if isWr then some 1 else tick a.wr,
      apRd := if ap && !isWr then some 1 else if ap && isWr then none else tick a.apRd,
      apWr := if ap && isWr then some 1 else if ap && !isWr then none else tick a.apWr,
      apPend := if ap then true else a.apPend }
  | .nop => { act := tick a.act, pre := if prea then some 1 else tick a.pre, wr := tick a.wr, apRd := tick a.apRd, apWr := tick a.apWr, apPend := a.apPend }

/-- timer invariant against an age (`none` = no strobe so far) -/
def TxAge (t : Option Nat) (tx : TX) (a : Age) : Prop :=
  match t, a with
  | some x, some k => C03.TxInv x tx k
  | _, _ => True

/-- REGULAR with the row closed has `tRP - 1`, since the ACT is at least a cycle away (in ACTIVATE).  `.trp k` after a PRE has
its age; after AUTOPRECHARGE (no PRE: `apPend`) it adds its cycles to the tWTP / tRAS that had elapsed there -/
def FsmI (c : Cfg) (f : BankMachine.St) (ro : Bool) (a : BAges) : Prop :=
  match f with
    | .regular => a.apPend = false ∧ (ro = true → ok a.act c.tRCD = true ∧ ok a.pre c.tRP = true) ∧
                  (ro = false → ok a.pre (c.tRP - 1) = true)
    | .trcd k => a.apPend = false ∧ a.act = some (k + 1) ∧ k + 1 < c.tRCD ∧ ok a.pre c.tRP = true
    | .precharge => a.apPend = false ∧ ok a.pre c.tRP = true
    | .autoprecharge => a.apPend = true ∧ ok a.pre c.tRP = true
    | .trp k => k + 1 < c.tRP ∧
        (a.apPend = false → a.pre = some (k + 1)) ∧
        (a.apPend = true → ok a.pre c.tRP = true ∧ ok a.apRd (k + 1) = true ∧ ok a.apWr (c.twtp + (k + 1)) = true ∧ ok a.act (c.tRAS.getD 0 + (k + 1)) = true)
    | .activate =>
        (a.apPend = false → ok a.pre c.tRP = true) ∧
        (a.apPend = true → ok a.pre c.tRP = true ∧ ok a.apRd c.tRP = true ∧ ok a.apWr (c.twtp + c.tRP) = true ∧ ok a.act (c.tRAS.getD 0 + c.tRP) = true)
    | .refresh => a.apPend = false

structure BInv (c : Cfg) (s : State) (a : BAges) : Prop where
  wtp : TxAge (some c.twtp) s.twtp a.wr
  ras : TxAge c.tRAS s.tras a.act
  rc : TxAge c.tRC s.trc a.act
  /-- `apWr`, if set, is the age of the last write: no write follows a WR+AP before the ACT -/
  apw : a.apPend = true → a.apWr = none ∨ a.apWr = a.wr
  fsmI : FsmI c s.fsm s.rowOpened a

/-- what the monitor requires of this bank machine's command -/
def bAllowed (c : Cfg) (a : BAges) : C02.Cmd → Bool
  | .act _ => ok a.pre c.tRP && ok a.act (c.tRC.getD 0) &&
      (!a.apPend || (ok a.apRd c.tRP && ok a.apWr (c.twtp + c.tRP) && ok a.act (c.tRAS.getD 0 + c.tRP)))
  | .cas _ => ok a.act c.tRCD
  | .pre => ok a.act (c.tRAS.getD 0) && ok a.wr c.twtp
  | .nop => true

theorem txage_ready (t : Option Nat) (tx : TX) (a : Age) (h : TxAge t tx a) (hr : tx.ready = true) : ok a (t.getD 0) = true := by
  cases t with
  | none => exact ok_zero a
  | some x =>
    cases a with
    | none => exact ok_none _
    | some k => simpa using C03.txinv_ready x tx k h hr

theorem txage_step (t : Option Nat) (tx : TX) (a : Age) (v : Bool) (h : TxAge t tx a) :
    TxAge t (TX.step t tx v) (if v then some 1 else tick a) := by
  cases t with
  | none => simp [TxAge]
  | some x =>
    cases v with
    | true =>
      simp only [TxAge, if_true]
      have := C03.tx_step x tx x true (by intro hh; omega)
      simpa [C03.since'] using this
    | false =>
      cases a with
      | none => simp [TxAge, tick]
      | some k =>
        simp only [TxAge, tick, Option.map_some] at h ⊢
        have := C03.tx_step x tx k false h
        simpa [C03.since'] using this

theorem txage_init (t : Option Nat) : TxAge t (TX.init t) none := by
  cases t <;> simp [TxAge]

theorem badv_wr (a : BAges) (cmd : C02.Cmd) (isWr prea : Bool) :
    (bAdvance a cmd isWr prea).wr = if (match cmd with | .cas _ => isWr | _ => false) then some 1 else tick a.wr := by
  cases cmd <;> simp [bAdvance]
theorem badv_act (a : BAges) (cmd : C02.Cmd) (isWr prea : Bool) :
    (bAdvance a cmd isWr prea).act = if (match cmd with | .act _ => true | _ => false) then some 1 else tick a.act := by
  cases cmd <;> simp [bAdvance]

theorem fsm_core (c : Cfg) (hrp : 1 ≤ c.tRP) (f : BankMachine.St) (rdy rfr bv ro rh ap tw ta tc isWr prea : Bool) (row : Nat) (a : BAges)
    (hf : FsmI c f ro a)
    (hapw : a.apPend = true → a.apWr = none ∨ a.apWr = a.wr)
    (rw1 : tw = true → ok a.wr c.twtp = true)
    (rw2 : ta = true → ok a.act (c.tRAS.getD 0) = true)
    (hprea : prea = true → f = .refresh ∧ rfr = true)
    (hexit : f = .refresh → rfr = false → ok a.pre c.tRP = true) :
    FsmI c (nxt c f rdy rfr bv ro rh ap tw ta tc) (roS f ro tc) (bAdvance a (cmdS f rdy rfr bv ro rh ap tw ta tc row) isWr prea) := by
  cases prea
  · clear hprea
    have tr := trans_nxt c f ⟨rdy, rfr, bv, ro, rh, ap, tw, ta, tc, row⟩
    dsimp only at tr
    generalize nxt .. = f', cmdS .. = cmd, roS .. = ro' at tr ⊢
    -- every transition ticks each age (`ok_tick_eq`: a bound survives, or is met one cycle later) or restarts it at 1
    cases tr <;> simp_all [bAdvance, FsmI, ok_tick_eq, ok_pred]
    -- what is left: a delay chain is entered iff its delay exceeds one cycle, and counts up to it
    case pre | preShort | trpCount | trcdCount => omega
    -- leaving AUTOPRECHARGE the timers were ready: `rw1`, `rw2` bound the ages since the WR+AP (`apWr` is `wr` by `hapw`) and the
    -- ACT; the chain then adds its cycles to those bounds (`trpDone`); the ACT itself finds `tRP` elapsed
    all_goals grind [ok_mono, ok_none]
  · -- a precharge-all lands only in REFRESH with the request still up: the machine stays there
    obtain ⟨rfl, rfl⟩ := hprea rfl
    simpa [FsmI, nxt, cmdS, bAdvance] using hf

/-- the controller's part (`refresh_req` is the refresher's `cmd.valid`): its precharge-all is accepted only by a multiplexer in REFRESH,
which takes every machine's grant (`hprea`); `valid` falls only with its time line run out, tRP or more after the precharge-all (`hexit`) -/
theorem binv_step (c : Cfg) (hrp : 1 ≤ c.tRP) (s : State) (i : In) (a : BAges) (prea : Bool) (h : BInv c s a)
    (hprea : prea = true → s.fsm = .refresh ∧ i.refresh = true)
    (hexit : s.fsm = .refresh → i.refresh = false → ok a.pre c.tRP = true) :
    bAllowed c a (cmdOfStep c s i) = true ∧
    BInv c (BankMachine.step c s i).1 (bAdvance a (cmdOfStep c s i) s.buf.we prea) ∧
    ((BankMachine.step c s i).2.refreshGnt = true → ok a.act (c.tRAS.getD 0) = true ∧ ok a.wr c.twtp = true) := by
  have hf := h.fsmI
  have hwtp : s.twtp.ready = true → ok a.wr c.twtp = true := fun hh => by simpa using txage_ready _ _ _ h.wtp hh
  have hras : s.tras.ready = true → ok a.act (c.tRAS.getD 0) = true := txage_ready _ _ _ h.ras
  have hrc : s.trc.ready = true → ok a.act (c.tRC.getD 0) = true := txage_ready _ _ _ h.rc
  refine ⟨?allowed, { wtp := ?wtp, ras := ?ras, rc := ?rc, apw := ?apw, fsmI := ?fsmI }, ?gnt⟩
  case allowed =>
    -- a command is offered only with its timers ready (`hwtp`, `hras`, `hrc`); the other ages it needs are in `FsmI` of its state
    rw [step_cmdS]
    cases hfs : s.fsm <;> simp only [hfs, FsmI] at hf <;> simp only [cmdS] <;> (try split) <;> simp [bAllowed] <;>
      (try cases hap : a.apPend) <;> simp_all
  case wtp => rw [step_twtp, badv_wr]; exact txage_step _ _ _ _ h.wtp
  case ras => rw [step_tras, badv_act]; exact txage_step _ _ _ _ h.ras
  case rc => rw [step_trc, badv_act]; exact txage_step _ _ _ _ h.rc
  case apw =>
    have hcas := cas_regular c s i
    generalize cmdOfStep c s i = cmd at hcas ⊢
    cases cmd with
    | nop | pre => simp only [bAdvance]; intro hp; rcases h.apw hp with e | e <;> simp [e]
    | act r => simp [bAdvance]
    | cas ap =>
      have hnp : a.apPend = false := by simp only [hcas ap rfl, FsmI] at hf; exact hf.1
      cases ap <;> cases hw : s.buf.we <;> simp [bAdvance, hnp]
  case fsmI =>
    rw [step_nxt, step_roS, step_cmdS]
    exact fsm_core c hrp (hf := hf) (hapw := h.apw) (rw1 := hwtp) (rw2 := hras) (hprea := hprea) (hexit := hexit) ..
  case gnt =>
    rw [step_refreshGnt]
    intro hg
    simp at hg
    exact ⟨hras hg.2, hwtp hg.1.2⟩

end BmTiming
