/-
An identity function on controller states for the examples that run the model in the kernel (`decide +kernel`).

The kernel remembers results only for terms it is asked about directly, not for one it reaches in tail position while reducing
another.  A register that holds its value is `if .. then .. else s.x` in `step`, so after `k` idle cycles its value is a chain of
`k` such terms that every later read walks again, and a run is quadratic in its length.  `ctl` rebuilds every register that can
hold through a strict operation (`+ 0`, `&& true`: the kernel evaluates the operand by a call of its own, which is remembered), so
a chain ends after one cycle and the cost is linear.
-/
import LitedramVerif.Model.Controller
namespace Nf
open Controller Hw

def tx (t : TX) : TX := ⟨t.count + 0, t.ready && true⟩

def bm (s : BankMachine.State) : BankMachine.State :=
  { s with level := s.level + 0, produce := s.produce + 0, consume := s.consume + 0, bufValid := s.bufValid && true,
           row := s.row + 0, rowOpened := s.rowOpened && true, twtp := tx s.twtp, trc := tx s.trc, tras := tx s.tras }

def rf (r : Refresher.State) : Refresher.State :=
  { r with seqCount := r.seqCount + 0, exCounter := r.exCounter + 0, exDone := r.exDone && true, zqCounter := r.zqCounter + 0,
           zqDone := r.zqDone && true, zqPending := r.zqPending && true }

def ctl (s : State) : State :=
  { s with bms := ⟨s.bms.toList.map bm⟩, rf := rf s.rf, grantCmd := s.grantCmd + 0, grantReq := s.grantReq + 0,
           trrd := tx s.trrd, tccd := tx s.tccd, twtr := tx s.twtr, readTimer := s.readTimer + 0, writeTimer := s.writeTimer + 0 }

theorem tx_eq (t : TX) : tx t = t := by cases t; simp [tx]
theorem bm_eq (s : BankMachine.State) : bm s = s := by cases s; simp [bm, tx_eq]
theorem ctl_eq (s : State) : ctl s = s := by cases s; simp [ctl, rf, tx_eq, List.map_id'' bm_eq]

end Nf
