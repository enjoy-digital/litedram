/-
On `Model/Secded.lean`, for C15: `xorAll` over a list with one position toggled; membership in `positions` / `cover` / `dataPos`,
none with a repetition; powers of two; the parameters `nsyn`, `computeM`.  The `f c != (c == q && s)` of `xorAll_map_toggle` is the form `C15.withSyndrome_of_testBit` gives
`place_syndrome` (`flipBit` is `s = true`).  `compute_m_n` ends with `n < 2 ^ m`, so the data fit.
-/
import LitedramVerif.Model.Secded
namespace Secded

theorem xorAll_cons (b : Bool) (l : List Bool) : xorAll (b :: l) = (b != xorAll l) := by
  simp [xorAll]

theorem xorAll_map_toggle (L : List Nat) (hL : L.Nodup) (f : Word) (q : Nat) (s : Bool) :
    xorAll (L.map (fun c => f c != (c == q && s))) = (xorAll (L.map f) != (s && decide (q ∈ L))) := by
  induction L with
  | nil => simp [xorAll]
  | cons a L ih =>
    have hn := List.nodup_cons.mp hL
    rw [List.map_cons, List.map_cons, xorAll_cons, xorAll_cons, ih hn.2]
    by_cases haq : a = q
    · subst haq
      cases s <;> simp [hn.1]
    · cases s <;> simp [beq_false_of_ne haq, Ne.symm haq]

theorem xorAll_map_flipBit (L : List Nat) (hL : L.Nodup) (w : Word) (q : Nat) :
    xorAll (L.map (flipBit q w)) = (xorAll (L.map w) != decide (q ∈ L)) := by
  have := xorAll_map_toggle L hL w q true
  simp only [Bool.and_true] at this
  exact this

theorem positions_nodup (n : Nat) : (positions n).Nodup := List.nodup_range' 1

theorem mem_positions {n c : Nat} : c ∈ positions n ↔ 1 ≤ c ∧ c ≤ n := by
  unfold positions
  rw [List.mem_range'_1]; omega

theorem cover_nodup (n i : Nat) : (cover n i).Nodup := (positions_nodup n).filter _

theorem mem_cover {n i c : Nat} : c ∈ cover n i ↔ (1 ≤ c ∧ c ≤ n) ∧ c.testBit i = true := by
  unfold cover; rw [List.mem_filter, mem_positions]

theorem two_pow_mem_cover {n i c : Nat} (hc : c ∈ cover n i) : 2 ^ i ∈ cover n i := by
  obtain ⟨⟨_, h2⟩, hb⟩ := mem_cover.mp hc
  exact mem_cover.mpr ⟨⟨Nat.two_pow_pos i, Nat.le_trans (Nat.ge_two_pow_of_testBit hb) h2⟩,
    Nat.testBit_two_pow_self⟩

theorem dataPos_nodup (n : Nat) : (dataPos n).Nodup := (positions_nodup n).filter _

theorem mem_dataPos {n c : Nat} : c ∈ dataPos n ↔ (1 ≤ c ∧ c ≤ n) ∧ isPow2 c = false := by
  unfold dataPos; rw [List.mem_filter, mem_positions]; simp

theorem zero_cons_positions_nodup (n : Nat) : (0 :: positions n).Nodup := by
  apply List.nodup_cons.mpr
  refine ⟨?_, positions_nodup n⟩
  intro h; have := mem_positions.mp h; omega

theorem isPow2_iff {p : Nat} : isPow2 p = true ↔ p ≠ 0 ∧ p = 2 ^ p.log2 := by
  unfold isPow2; simp

theorem isPow2_two_pow (i : Nat) : isPow2 (2 ^ i) = true := by
  rw [isPow2_iff]; refine ⟨Nat.ne_of_gt (Nat.two_pow_pos i), ?_⟩
  rw [Nat.log2_two_pow]

theorem pow2_testBit {c i : Nat} (hc : isPow2 c = true) (hb : c.testBit i = true) : c = 2 ^ i := by
  obtain ⟨_, h2⟩ := isPow2_iff.mp hc
  rw [h2, Nat.testBit_two_pow] at hb
  have : c.log2 = i := by simpa using hb
  rw [h2, this]

theorem lt_two_pow_nsyn {n c : Nat} (h : c ≤ n) : c < 2 ^ nsyn n := by
  unfold nsyn; exact Nat.lt_of_le_of_lt h Nat.lt_log2_self

theorem testBit_lt_nsyn {n c i : Nat} (h : c ≤ n) (hb : c.testBit i = true) : i < nsyn n :=
  (Nat.pow_lt_pow_iff_right (by decide)).mp
    (Nat.lt_of_le_of_lt (Nat.ge_two_pow_of_testBit hb) (lt_two_pow_nsyn h))

theorem computeMAux_spec (k : Nat) : ∀ fuel m, m + fuel + k < 2 ^ (m + fuel) →
    computeMAux k fuel m + k < 2 ^ computeMAux k fuel m
  | 0, m, h => h
  | fuel + 1, m, h => by
    unfold computeMAux
    split
    · exact computeMAux_spec k fuel (m + 1)
        (by rwa [Nat.add_right_comm m 1 fuel])
    · omega

/-- the fuel `k + 2` of `computeM` is enough: `m = k + 3` would do -/
theorem computeN_lt (k : Nat) : computeN k < 2 ^ computeM k := by
  have := @Nat.lt_two_pow_self (k + 2)
  exact computeMAux_spec k (k + 2) 1 (by rw [Nat.add_comm 1]; omega)

/-- the powers of two among `1..n` are among `2^0, .., 2^(m-1)` -/
theorem le_length_dataPos {n m : Nat} (h : n < 2 ^ m) : n ≤ (dataPos n).length + m := by
  have hsplit : n = ((positions n).filter isPow2).length + (dataPos n).length := by
    simpa [List.countP_eq_length_filter, positions, dataPos] using
      List.length_eq_countP_add_countP isPow2 (l := positions n)
  have hle : ((positions n).filter isPow2).length ≤ ((List.range m).map (2 ^ ·)).length :=
    List.Nodup.length_le_of_subset ((positions_nodup n).filter _) fun c hc => by
      obtain ⟨hc, hp⟩ := List.mem_filter.mp hc
      obtain ⟨h0, h2⟩ := isPow2_iff.mp hp
      have : c < 2 ^ m := Nat.lt_of_le_of_lt (mem_positions.mp hc).2 h
      exact List.mem_map.mpr ⟨c.log2, List.mem_range.mpr ((Nat.log2_lt h0).mpr this), h2.symm⟩
  rw [List.length_map, List.length_range] at hle
  omega

theorem flipBit_of_ne {q c : Nat} (h : c ≠ q) (w : Word) : flipBit q w c = w c := by
  simp [flipBit, beq_false_of_ne h]

theorem flipBit_flipBit (q : Nat) (w : Word) : flipBit q (flipBit q w) = w := by
  funext c; simp [flipBit]

end Secded
