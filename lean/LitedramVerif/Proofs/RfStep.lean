/-
`Refresher.step` register by register.  The command registers are assigned in the order: defaults, the refresh executer's events
at counter 0 / tRP / tRP + tRFC, the ZQ executer's events, and the last assignment wins; `exEvent` / `zqEvent` ask for the events
in the opposite order and so name the command that ends up on the registers (`step_regs`).  The namespace is `RefresherInv`,
whose invariant is stated over `RCmd` / `regsAre`.
-/
import LitedramVerif.Model.Refresher
import LitedramVerif.Proofs.Hw

namespace RefresherInv
open Hw Refresher

inductive RCmd | none | prea | ref | zqc
deriving DecidableEq, Repr

def regsAre (c : Cfg) (s : State) : RCmd → Prop
  | .none => s.cas = false ∧ s.ras = false ∧ s.we = false
  | .prea => s.cas = false ∧ s.ras = true ∧ s.we = true ∧ s.a = 1024
  | .ref  => s.cas = true ∧ s.ras = true ∧ s.we = false
  | .zqc  => s.cas = false ∧ s.ras = false ∧ s.we = true

def exStart (s : State) (ready : Bool) : Bool := (s.fsm == .waitBm && ready) || s.seqCount != 0
def zqStart (c : Cfg) (s : State) : Bool := s.fsm == .doRefresh && seqDone s && wantsZqcs c s

def fsmNext (c : Cfg) (s : State) (ready : Bool) : Fsm :=
    match s.fsm with
    | .idle => if c.withRefresh && s.reqO then .waitBm else .idle
    | .waitBm => if ready then .doRefresh else .waitBm
    | .doRefresh => if seqDone s then (if wantsZqcs c s then .doZqcs else .idle) else .doRefresh
    | .doZqcs => if s.zqDone then .idle else .doZqcs

theorem step_fsm (c : Cfg) (s : State) (ready : Bool) : (step c s ready).fsm = fsmNext c s ready := by
  unfold step fsmNext; cases c.tZQCS <;> rfl

theorem step_exCounter (c : Cfg) (s : State) (ready : Bool) :
    (step c s ready).exCounter = timelineStep (c.tRP + c.tRFC) s.exCounter (exStart s ready) := by
  unfold step exStart; cases c.tZQCS <;> rfl

theorem step_exDone (c : Cfg) (s : State) (ready : Bool) :
    (step c s ready).exDone = timelineFires (c.tRP + c.tRFC) s.exCounter (exStart s ready) := by
  unfold step exStart; cases c.tZQCS <;> rfl

theorem step_timerCount (c : Cfg) (s : State) (ready : Bool) :
    (step c s ready).timerCount = if s.timerCount ≠ 0 then s.timerCount - 1 else c.tREFI - 1 := by
  unfold step; cases c.tZQCS <;> simp <;> simp_all

/-- the postponer: one request per `postponing` timer pulses (its count-down does not wrap) -/
theorem step_post (c : Cfg) (s : State) (ready : Bool) (hp : s.postCount < c.postponing) :
    (step c s ready).postCount = (if s.timerCount = 0 then (if s.postCount = 0 then c.postponing - 1 else s.postCount - 1) else s.postCount) ∧
    (step c s ready).reqO = (decide (s.timerCount = 0) && decide (s.postCount = 0)) := by
  have e := fun h0 => dec_bitsFor c.postponing s.postCount h0 hp
  unfold step
  cases c.tZQCS <;> by_cases ht : s.timerCount = 0 <;> by_cases h0 : s.postCount = 0 <;> simp [ht, h0, e]

theorem step_seqCount (c : Cfg) (s : State) (ready : Bool) :
    (step c s ready).seqCount = if (s.fsm == .waitBm && ready) then c.postponing - 1
                   else if s.exDone then (if s.seqCount != 0 then s.seqCount - 1 else s.seqCount) else s.seqCount := by
  unfold step; cases c.tZQCS <;> rfl

def exEvent (c : Cfg) (s : State) (ready : Bool) : RCmd :=
  if s.exCounter == c.tRP + c.tRFC then .none else if s.exCounter == c.tRP then .ref
  else if exStart s ready && s.exCounter == 0 then .prea else .none

def zqEvent (c : Cfg) (s : State) : Option RCmd :=
  c.tZQCS.bind fun z =>
    if s.zqCounter == c.tRP + z then some .none else if s.zqCounter == c.tRP then some .zqc
    else if zqStart c s && s.zqCounter == 0 then some .prea else Option.none

/-- the command lines `(cas, ras, we)` of a command -/
def RCmd.bits : RCmd → Bool × Bool × Bool
  | .none => (false, false, false)
  | .prea => (false, true, true)
  | .ref => (true, true, false)
  | .zqc => (false, false, true)

theorem regsAre_of_bits (c : Cfg) (s : State) (e : RCmd) (h : (s.cas, s.ras, s.we) = e.bits) (ha : e = .prea → s.a = 1024) :
    regsAre c s e := by
  cases e <;> simp_all [regsAre, RCmd.bits]

theorem step_zq_some (c : Cfg) (s : State) (ready : Bool) (z : Nat) (hz : c.tZQCS = some z) :
    (step c s ready).zqCounter = timelineStep (c.tRP + z) s.zqCounter (zqStart c s) ∧
    (step c s ready).zqDone = timelineFires (c.tRP + z) s.zqCounter (zqStart c s) := by
  simp [step, hz, zqStart]

theorem step_zqPending (c : Cfg) (s : State) (ready : Bool) (z : Nat) (hz : c.tZQCS = some z) :
    (step c s ready).zqPending = (if zqStart c s then false else if zqTimerDone s then true else s.zqPending) := by
  simp [step, hz, zqStart]

theorem step_zq_none (c : Cfg) (s : State) (ready : Bool) (hz : c.tZQCS = none) :
    (step c s ready).zqCounter = s.zqCounter ∧ (step c s ready).zqDone = s.zqDone := by
  simp [step, hz]

/-- with ZQCS disabled the ZQ executer is a timeline that is never started, so one statement (`Edge.zq`) serves both configurations -/
theorem zqStart_none (c : Cfg) (s : State) (hz : c.tZQCS = none) : zqStart c s = false := by
  simp [zqStart, wantsZqcs, hz]

theorem step_regs (c : Cfg) (s : State) (ready : Bool) (hrp : 1 ≤ c.tRP) (ha : 11 ≤ c.abits) :
    regsAre c (step c s ready) ((zqEvent c s).getD (exEvent c s ready)) := by
  have h1024 : 1024 % 2 ^ c.abits = 1024 :=
    Nat.mod_eq_of_lt (Nat.lt_of_lt_of_le (by decide) (Nat.pow_le_pow_right (by decide) ha))
  have hne : c.tRP ≠ 0 := by omega
  have hne2 : c.tRP + c.tRFC ≠ 0 := by omega
  unfold zqEvent exEvent exStart zqStart
  cases hz : c.tZQCS with
  | none =>
    refine regsAre_of_bits _ _ _ ?_ ?_
    all_goals
      simp only [step, hz, fires_pos _ _ _ hne, fires_pos _ _ _ hne2, fires_zero, Option.bind_none, Option.getD_none]
      generalize (s.exCounter == c.tRP + c.tRFC) = f2, (s.exCounter == c.tRP) = f1,
        ((s.fsm == Fsm.waitBm && ready || s.seqCount != 0) && s.exCounter == 0) = f0
    · cases f0 <;> cases f1 <;> cases f2 <;> rfl
    · cases f0 <;> cases f1 <;> cases f2 <;> simp [h1024]
  | some z =>
    have hne3 : c.tRP + z ≠ 0 := by omega
    refine regsAre_of_bits _ _ _ ?_ ?_
    all_goals
      simp only [step, hz, fires_pos _ _ _ hne, fires_pos _ _ _ hne2, fires_pos _ _ _ hne3, fires_zero, Option.bind_some]
      generalize (s.exCounter == c.tRP + c.tRFC) = f2, (s.exCounter == c.tRP) = f1,
        ((s.fsm == Fsm.waitBm && ready || s.seqCount != 0) && s.exCounter == 0) = f0,
        (s.zqCounter == c.tRP + z) = z2, (s.zqCounter == c.tRP) = z1,
        ((s.fsm == Fsm.doRefresh && seqDone s && wantsZqcs c s) && s.zqCounter == 0) = z0
    -- where no ZQ event fires, the refresh executer's assignment stands
    · cases z0 <;> cases z1 <;> cases z2 <;> first | rfl | (cases f0 <;> cases f1 <;> cases f2 <;> rfl)
    · cases z0 <;> cases z1 <;> cases z2 <;> first | (simp [h1024]; done) | (cases f0 <;> cases f1 <;> cases f2 <;> simp [h1024])

theorem waitBm_pred (c : Cfg) (r : State) (ready : Bool) (h : (step c r ready).fsm = .waitBm) :
    r.fsm = .idle ∨ (r.fsm = .waitBm ∧ ready = false) := by
  grind [step_fsm, fsmNext]
theorem doRefresh_pred (c : Cfg) (r : State) (ready : Bool) (h : (step c r ready).fsm = .doRefresh) :
    (r.fsm = .waitBm ∧ ready = true) ∨ (r.fsm = .doRefresh ∧ seqDone r = false) := by
  grind [step_fsm, fsmNext]
theorem doZqcs_pred (c : Cfg) (r : State) (ready : Bool) (h : (step c r ready).fsm = .doZqcs) :
    (r.fsm = .doRefresh ∧ zqStart c r = true) ∨ (r.fsm = .doZqcs ∧ r.zqDone = false) := by
  grind [step_fsm, fsmNext, zqStart]

theorem out_idle (c : Cfg) (s : State) (h : s.fsm = .idle) : (out c s).valid = false ∧ (out c s).last = false := by
  simp [out, h]
theorem out_waitBm (c : Cfg) (s : State) (h : s.fsm = .waitBm) : (out c s).valid = true ∧ (out c s).last = false := by
  simp [out, h]
theorem out_doRefresh (c : Cfg) (s : State) (h : s.fsm = .doRefresh) :
    (out c s).valid = (!seqDone s || wantsZqcs c s) ∧ (out c s).last = (seqDone s && !wantsZqcs c s) := by
  cases hd : seqDone s <;> cases hw : wantsZqcs c s <;> simp [out, h, hd, hw]
theorem out_doZqcs (c : Cfg) (s : State) (h : s.fsm = .doZqcs) : (out c s).valid = !s.zqDone ∧ (out c s).last = s.zqDone := by
  cases hd : s.zqDone <;> simp [out, h, hd]

end RefresherInv
