/-
Single-phase configurations (nphases = 1): a different mechanism from the multi-phase one of CtlLive0, not a variant of it.
The *request* chooser also issues the precharges and activates, behind the tCCD gate, and an activate that is not allowed is
*skipped* by the arbiter instead of blocking it, so the grant may wander away from `b` while activates are gated.
-/
import LitedramVerif.Proofs.CtlLive0
namespace CtlLive
open Controller Hw CtlInv BmLive

theorem vReq_pending1 (c : Cfg) (s : State) (ins : Array BankIn) (hp : Pending c s) (hone : (c.nphases == 1) = true) (j : Nat) (hj : j < c.nbm) :
    (vReqOf c s ins)[j]! = ((reqJ c s ins j).valid &&
      ((reqJ c s ins j).we || rasAllowedOf s || !(s.fsm == .read || s.fsm == .write))) := by
  rw [vReqOf, map_reqs_get, decide_eq_true hj, chooserValid_shape _ (reqJ_shape c s ins j), (reqJ_pending c s ins hp j).cas, hone,
    Bool.not_or]
  rfl

theorem vReq_allowed (c : Cfg) (s : State) (ins : Array BankIn) (hp : Pending c s) (hone : (c.nphases == 1) = true) (b : Nat)
    (hb : b < c.nbm) (hv : (reqJ c s ins b).valid = true) (hra : rasAllowedOf s = true) : (vReqOf c s ins)[b]! = true := by
  rw [vReq_pending1 c s ins hp hone b hb, hv, hra]; simp

theorem cReq_pending1 (c : Cfg) (s : State) (ins : Array BankIn) (hp : Pending c s) (hone : (c.nphases == 1) = true) (hg : s.grantReq < c.nbm) :
    (combOf c s ins).cReq.valid = (vReqOf c s ins)[s.grantReq]! ∧
    (combOf c s ins).cReq.activate = ((vReqOf c s ins)[s.grantReq]! && !(reqJ c s ins s.grantReq).we) := by
  have h := reqJ_pending c s ins hp s.grantReq
  refine ⟨cReq_valid c s ins, ?_⟩
  rw [combOf_cReq]
  simp only [choose, Chosen.activate, reqsOf_get c s ins _ hg, h.cas, h.ras]
  cases hv : (vReqOf c s ins)[s.grantReq]!
  · rfl
  · rw [vReq_pending1 c s ins hp hone _ hg, Bool.and_eq_true] at hv
    simp [hv.1]

theorem strobes_pending1 (c : Cfg) (s : State) (ins : Array BankIn) (hp : Pending c s) (hone : (c.nphases == 1) = true) (hg : s.grantReq < c.nbm) :
    CtlTiming.casStrobeOf c s ins = false ∧
    CtlTiming.actStrobeOf c s ins = ((combOf c s ins).reqAccept && (combOf c s ins).cReq.activate) := by
  have h := reqJ_pending c s ins hp s.grantReq
  have hrw : (combOf c s ins).cReq.isRead = false ∧ (combOf c s ins).cReq.isWrite = false := by
    rw [combOf_cReq]; simp [choose, reqsOf_get c s ins _ hg, h.isRead, h.isWrite]
  simp [CtlTiming.casStrobeOf, CtlTiming.actStrobeOf, hone, hrw.1, hrw.2]

theorem bmReady_pending1 (c : Cfg) (s : State) (ins : Array BankIn) (hone : (c.nphases == 1) = true) (b : Nat) :
    bmReadyOf c s ins b = ((combOf c s ins).reqAccept && s.grantReq == b) := by
  rw [bmReady_eq, cmd_noaccept_one c s ins hone]; simp

def sumUpTo (f : Nat → Nat) : Nat → Nat
  | 0 => 0
  | n + 1 => sumUpTo f n + f n

theorem sumUpTo_le (f g : Nat → Nat) (n : Nat) (h : ∀ j, j < n → f j ≤ g j) : sumUpTo f n ≤ sumUpTo g n := by
  induction n with
  | zero => simp [sumUpTo]
  | succ n ih =>
    have := ih (fun j hj => h j (by omega)); have := h n (by omega)
    simp only [sumUpTo]; omega

theorem sumUpTo_lt (f g : Nat → Nat) (n : Nat) (h : ∀ j, j < n → f j ≤ g j) (j0 : Nat) (hj0 : j0 < n) (hlt : f j0 + 1 ≤ g j0) :
    sumUpTo f n + 1 ≤ sumUpTo g n := by
  induction n with
  | zero => omega
  | succ n ih =>
    simp only [sumUpTo]
    by_cases hn : j0 = n
    · subst hn
      have := sumUpTo_le f g j0 (fun j hj => h j (by omega))
      omega
    · have := ih (fun j hj => h j (by omega)) (by omega)
      have := h n (by omega)
      omega

theorem sumUpTo_bound (f : Nat → Nat) (n B : Nat) (h : ∀ j, j < n → f j ≤ B) : sumUpTo f n ≤ n * B := by
  induction n with
  | zero => simp [sumUpTo]
  | succ n ih =>
    have := ih (fun j hj => h j (by omega)); have := h n (by omega)
    simp only [sumUpTo]; rw [Nat.add_mul, Nat.one_mul]; omega

/-- 1 in the states from which, under a held refresh request, an ACTIVATE is still to come before the grant -/
def canActF (f : BankMachine.St) : Nat :=
  match f with
  | .precharge | .autoprecharge | .trp _ | .activate => 1
  | _ => 0

def canAct (s : BankMachine.State) : Nat := canActF s.fsm

def kAct (c : Cfg) (s : State) : Nat := sumUpTo (fun j => canAct s.bms[j]!) c.nbm

/-- with `refresh_req` held the FSM only moves along precharge → tRP → activate → tRCD → regular → refresh -/
theorem canActF_nxt (c : BankMachine.Cfg) (f : BankMachine.St) (rdy bv ro rh ap tw ta tc : Bool) :
    canActF (BmTiming.nxt c f rdy true bv ro rh ap tw ta tc) ≤ canActF f ∧
    (f = .activate → tc = true → rdy = true → canActF (BmTiming.nxt c f rdy true bv ro rh ap tw ta tc) + 1 ≤ canActF f) := by
  have tr := BmTiming.trans_nxt c f ⟨rdy, true, bv, ro, rh, ap, tw, ta, tc, 0⟩
  generalize BmTiming.nxt .. = f', BmTiming.cmdS .. = cmd, BmTiming.roS .. = ro' at tr ⊢
  cases tr <;> simp_all [canActF]

theorem canAct_step (c : BankMachine.Cfg) (s : BankMachine.State) (i : BankMachine.In) (hr : i.refresh = true) :
    canAct (BankMachine.step c s i).1 ≤ canAct s ∧
    (s.fsm = .activate → s.trc.ready = true → i.ready = true → canAct (BankMachine.step c s i).1 + 1 ≤ canAct s) := by
  simp only [canAct, BmTiming.step_nxt, hr]
  exact canActF_nxt c _ _ _ _ _ _ _ _ _

theorem canAct_le_one (s : BankMachine.State) : canAct s ≤ 1 := by
  simp only [canAct, canActF]; split <;> omega

theorem ras_stays (c : Cfg) (s : State) (ins : Array BankIn) (hs : CtlTiming.actStrobeOf c s ins = false)
    (h : rasAllowedOf s = true) : rasAllowedOf (step c s ins).1 = true := by
  rw [rasAllowedOf_iff] at h ⊢
  rw [CtlTiming.step_trrd, CtlTiming.step_tfaw, hs, tx_step_ready _ _ h.1]
  exact ⟨h.1, tf_step_ready _ _ h.2⟩

theorem kAct_step (c : Cfg) (s : State) (ins : Array BankIn) (hp : Pending c s) :
    kAct c (step c s ins).1 ≤ kAct c s ∧
    (∀ g, g < c.nbm → (s.bms[g]!).fsm = .activate → (s.bms[g]!).trc.ready = true → bmReadyOf c s ins g = true →
      kAct c (step c s ins).1 + 1 ≤ kAct c s) := by
  have hle : ∀ j, j < c.nbm → canAct (step c s ins).1.bms[j]! ≤ canAct s.bms[j]! := by
    intro j hj; rw [step_bms c s ins j hj]; exact (canAct_step c.bm _ (bmIn c s ins j) hp).1
  refine ⟨sumUpTo_le _ _ _ hle, ?_⟩
  intro g hg hf ht hr
  refine sumUpTo_lt _ _ _ hle g hg ?_
  rw [step_bms c s ins g hg]
  exact (canAct_step c.bm _ (bmIn c s ins g) hp).2 hf ht hr

/-- single phase: an upper bound on the cycles until the request chooser accepts the command bank machine `b` offers -/
def omega1 (c : Cfg) (s : State) (b : Nat) : Nat :=
  muxWait c s + rem (some c.tCCD) s.tccd + rasWait c s +
    (if rasAllowedOf s then C05.dist c.nbm s.grantReq b else c.nbm - 1) + kAct c s * (rasInc c + c.nbm)

/-- on a quiet edge (no activate accepted) no term of `omega1` rises and one falls; an accepted activate may reopen the tRRD/tFAW
wait (by at most `inc`) and throw the distance term back to `n − 1`, which the activate count `K` pays for -/
theorem omega1_arith {n inc M M' Cc Cc' R R' D D' K K' : Nat} (hM : M' ≤ M) (hC : Cc' ≤ Cc) (hK : K' ≤ K)
    (h : (R' ≤ R ∧ D' ≤ D ∧ (M' + 1 ≤ M ∨ Cc' + 1 ≤ Cc ∨ R' + 1 ≤ R ∨ D' + 1 ≤ D)) ∨
      (K' + 1 ≤ K ∧ R' ≤ R + inc ∧ D' + 1 ≤ D + n)) :
    M' + Cc' + R' + D' + K' * (inc + n) + 1 ≤ M + Cc + R + D + K * (inc + n) := by
  have h1 := Nat.mul_le_mul_right (inc + n) hK
  rcases h with ⟨hR, hD, hs⟩ | ⟨hK1, hR, hD⟩
  · omega
  · have h2 := NatBits.mul_add_self_le (inc + n) hK1
    omega

/-- the chooser sees `b` while activates are allowed, so the grant does not pass it; a ready chooser serves somebody else and moves on -/
theorem grant1_quiet (c : Cfg) (s : State) (ins : Array BankIn) (hk : MOk c s) (hp : Pending c s) (hone : (c.nphases == 1) = true)
    (b : Nat) (hb : b < c.nbm) (hv : (reqJ c s ins b).valid = true) (hnr : bmReadyOf c s ins b = false)
    (hra : rasAllowedOf s = true) (hs : CtlTiming.actStrobeOf c s ins = false) :
    rasAllowedOf (step c s ins).1 = true ∧
    C05.dist c.nbm (step c s ins).1.grantReq b ≤ C05.dist c.nbm s.grantReq b ∧
    (reqReadyOf c s ins = true → C05.dist c.nbm (step c s ins).1.grantReq b + 1 ≤ C05.dist c.nbm s.grantReq b) := by
  have hvb := vReq_allowed c s ins hp hone b hb hv hra
  obtain ⟨hD0, hD1⟩ := C05.rrStep_dist c.nbm s.grantReq b (fun i => (vReqOf c s ins)[i]!)
    (reqReadyOf c s ins || !(combOf c s ins).cReq.valid) hk.gr hb hvb
  rw [← step_grantReq] at hD0 hD1
  have hcv := (cReq_pending1 c s ins hp hone hk.gr).1
  rw [bmReady_pending1 c s ins hone, reqAccept_eq, hcv] at hnr
  have hg : reqReadyOf c s ins = true → s.grantReq ≠ b := fun hr hg => by rw [hg, hvb, hr] at hnr; simp at hnr
  refine ⟨ras_stays c s ins hs hra, ?_, fun hr => hD1 (by simp [hr]) (hg hr)⟩
  cases hce : (reqReadyOf c s ins || !(combOf c s ins).cReq.valid)
  · rw [hD0 hce]; exact Nat.le_refl _
  · by_cases hgb : s.grantReq = b
    · rw [hcv, hgb, hvb] at hce
      exact absurd hgb (hg (by simpa using hce))
    · exact Nat.le_of_succ_le (hD1 hce hgb)

theorem kAct_act (c : Cfg) (s : State) (ins : Array BankIn) (hk : MOk c s) (hp : Pending c s) (hone : (c.nphases == 1) = true)
    (hs : CtlTiming.actStrobeOf c s ins = true) : kAct c (step c s ins).1 + 1 ≤ kAct c s := by
  obtain ⟨hcv, hca⟩ := cReq_pending1 c s ins hp hone hk.gr
  rw [(strobes_pending1 c s ins hp hone hk.gr).2, hca, Bool.and_eq_true, Bool.and_eq_true, Bool.not_eq_true'] at hs
  obtain ⟨hacc, hgv, hwe⟩ := hs
  rw [vReq_pending1 c s ins hp hone _ hk.gr, Bool.and_eq_true] at hgv
  have h := reqJ_pending c s ins hp s.grantReq
  rw [h.we] at hwe
  have hvalid := hgv.1
  rw [h.valid, bmValid, hwe, Bool.false_or, Bool.and_eq_true, beq_iff_eq] at hvalid
  exact (kAct_step c s ins hp).2 s.grantReq hk.gr hvalid.1 hvalid.2
    (by rw [bmReady_pending1 c s ins hone, hacc]; simp)

theorem omega1_step (c : Cfg) (s : State) (ins : Array BankIn) (hk : MOk c s) (hp : Pending c s) (hone : (c.nphases == 1) = true)
    (hnref : s.fsm ≠ .refresh) (b : Nat) (hb : b < c.nbm) (hv : (reqJ c s ins b).valid = true) (hnr : bmReadyOf c s ins b = false) :
    (step c s ins).1.fsm = .refresh ∨ omega1 c (step c s ins).1 b + 1 ≤ omega1 c s b := by
  refine (muxWait_step c s ins hk hp).imp_right fun hM => ?_
  have hC := rem_idle (some c.tCCD) s.tccd hk.tccd
  have hCst : (step c s ins).1.tccd = TX.step (some c.tCCD) s.tccd false := by
    rw [CtlTiming.step_tccd, (strobes_pending1 c s ins hp hone hk.gr).1]
  have hdle : ∀ g, C05.dist c.nbm g b ≤ c.nbm - 1 := fun g => C05.dist_le c.nbm g b (by omega)
  simp only [omega1, hCst, hC]
  refine omega1_arith (Nat.le_trans hM (Nat.sub_le _ _)) (Nat.sub_le _ _) (kAct_step c s ins hp).1 ?_
  cases hs : CtlTiming.actStrobeOf c s ins
  · -- a quiet edge: the turn-round falls, else the tCCD gate, else the tRRD/tFAW gate, else the distance
    left
    obtain ⟨hR, hRg⟩ := rasWait_quiet c s ins hk hs
    cases hra : rasAllowedOf s
    · refine ⟨hR, ?_, ?_⟩
      · simp only [Bool.false_eq_true, if_false]; split
        · exact hdle _
        · exact Nat.le_refl _
      · exact Or.inr (Or.inr (Or.inl (hRg hra)))
    · obtain ⟨q1, q2, q3⟩ := grant1_quiet c s ins hk hp hone b hb hv hnr hra hs
      simp only [q1, if_true]
      refine ⟨hR, q2, ?_⟩
      by_cases hm0 : muxWait c s = 0
      · by_cases hc0 : rem (some c.tCCD) s.tccd = 0
        · have hrr := reqReady_of_allowed c s ins ((muxWait_active c s hnref).mp hm0) ((rem_zero _ _ hk.tccd).mp hc0) hra
          exact Or.inr (Or.inr (Or.inr (q3 hrr)))
        · exact Or.inr (Or.inl (by omega))
      · exact Or.inl (by omega)
  · -- an activate of another bank machine is accepted
    right
    refine ⟨kAct_act c s ins hk hp hone hs, rasWait_any c s ins hk, ?_⟩
    have := hdle (step c s ins).1.grantReq
    split <;> split <;> omega

theorem omega1_zero (c : Cfg) (s : State) (ins : Array BankIn) (hk : MOk c s) (hp : Pending c s) (hone : (c.nphases == 1) = true)
    (hnref : s.fsm ≠ .refresh) (b : Nat) (hb : b < c.nbm) (hv : (reqJ c s ins b).valid = true) (h0 : omega1 c s b = 0) :
    bmReadyOf c s ins b = true := by
  simp only [omega1] at h0
  have hm : muxWait c s = 0 := by omega
  have hr : rasWait c s = 0 := by omega
  have hc : rem (some c.tCCD) s.tccd = 0 := by omega
  have hra := rasWait_zero c s hk hr
  rw [hra] at h0
  simp only [if_true] at h0
  have hd : C05.dist c.nbm s.grantReq b = 0 := by omega
  have hg : s.grantReq = b := C05.dist_zero c.nbm _ _ hk.gr hb hd
  have hrr := reqReady_of_allowed c s ins ((muxWait_active c s hnref).mp hm) ((rem_zero _ _ hk.tccd).mp hc) hra
  rw [bmReady_pending1 c s ins hone, reqAccept_eq, (cReq_pending1 c s ins hp hone hk.gr).1, hg,
    vReq_allowed c s ins hp hone b hb hv hra, hrr]
  simp

theorem omega1_le (c : Cfg) (s : State) (hk : MOk c s) (b : Nat) : omega1 c s b ≤ omega1Max c := by
  have h2 := rasWait_le c s hk
  have h6 := rem_le _ _ hk.tccd
  have h4 := muxWait_le c s hk
  have h5 : (if rasAllowedOf s then C05.dist c.nbm s.grantReq b else c.nbm - 1) ≤ c.nbm - 1 := by
    have := C05.dist_le c.nbm s.grantReq b (by have := hk.gr; omega)
    split <;> omega
  have h7 : kAct c s ≤ c.nbm * 1 := sumUpTo_bound _ _ _ (fun j _ => canAct_le_one _)
  have h8 : kAct c s * (rasInc c + c.nbm) ≤ c.nbm * (rasInc c + c.nbm) := Nat.mul_le_mul_right _ (by omega)
  simp only [omega1, omega1Max, muxCap] at h4 ⊢
  omega

def omegaG (c : Cfg) (s : State) (b : Nat) : Nat := if c.nphases == 1 then omega1 c s b else omegaB c s b

theorem omegaG_step (c : Cfg) (s : State) (ins : Array BankIn) (hk : MOk c s) (hp : Pending c s)
    (hnref : s.fsm ≠ .refresh) (b : Nat) (hb : b < c.nbm) (hv : (reqJ c s ins b).valid = true) (hnr : bmReadyOf c s ins b = false) :
    (step c s ins).1.fsm = .refresh ∨ omegaG c (step c s ins).1 b + 1 ≤ omegaG c s b := by
  unfold omegaG
  cases hone : (c.nphases == 1)
  · simpa using omega_step c s ins hk hp hone hnref b hb hv hnr
  · simpa using omega1_step c s ins hk hp hone hnref b hb hv hnr

theorem omegaG_zero (c : Cfg) (s : State) (ins : Array BankIn) (hk : MOk c s) (hp : Pending c s)
    (hnref : s.fsm ≠ .refresh) (b : Nat) (hb : b < c.nbm) (hv : (reqJ c s ins b).valid = true) (h0 : omegaG c s b = 0) :
    bmReadyOf c s ins b = true := by
  unfold omegaG at h0
  cases hone : (c.nphases == 1)
  · rw [hone] at h0; exact omega_zero c s ins hk hp hone hnref b hb hv (by simpa using h0)
  · rw [hone] at h0; exact omega1_zero c s ins hk hp hone hnref b hb hv (by simpa using h0)

theorem omegaG_le (c : Cfg) (s : State) (hk : MOk c s) (b : Nat) : omegaG c s b ≤ omegaGMax c := by
  unfold omegaG omegaGMax
  cases hone : (c.nphases == 1)
  · simpa using omega_le c s hk b
  · simpa using omega1_le c s hk b

end CtlLive
