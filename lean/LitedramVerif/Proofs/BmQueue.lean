/-
The bank machine's request path - `cmd_buffer_lookahead` (SyncFIFO with storage array and produce / consume pointers) followed by
`cmd_buffer` (one-entry Buffer) - refines a list queue (C01).  This gives the "request being served" of C02 its meaning: the
oldest accepted request of that bank that has not been served yet.
-/
import LitedramVerif.Model.BankMachine
import LitedramVerif.Proofs.Queue
import LitedramVerif.Proofs.Lists
namespace BmQueue
open BankMachine

/-- storage index of the k-th oldest entry -/
def idx (depth consume k : Nat) : Nat := if consume + k < depth then consume + k else consume + k - depth

/-- the FIFO's contents, oldest first -/
def fifoList (s : State) (depth : Nat) : List Entry := (List.range s.level).map fun k => s.mem[idx depth s.consume k]!

/-- the bank machine's request queue: the `cmd_buffer` entry (being served) followed by the look-ahead FIFO -/
def queue (c : Cfg) (s : State) : List Entry := (if s.bufValid then [s.buf] else []) ++ fifoList s c.depth

/-- the second disjunct of `prod` is the first one at `level = depth` (`prod_mod`) -/
structure FInv (c : Cfg) (s : State) : Prop where
  size : s.mem.size = c.depth
  cons : s.consume < c.depth
  lvl : s.level ≤ c.depth
  prod : s.produce = idx c.depth s.consume s.level ∨ (s.level = c.depth ∧ s.produce = s.consume)

theorem finv_init (c : Cfg) (hd : 1 ≤ c.depth) : FInv c (State.init c) := by
  refine ⟨by simp [State.init], by simp [State.init]; omega, by simp [State.init], Or.inl ?_⟩
  simp [State.init, idx]

/-- a CAS is accepted this cycle -/
def served (c : Cfg) (s : State) (i : In) : Bool := (step c s i).2.wdataReady || (step c s i).2.rdataValid
/-- a request is accepted this cycle -/
def taken (c : Cfg) (s : State) (i : In) : Bool := i.valid && (step c s i).2.reqReady

theorem served_head (c : Cfg) (s : State) (i : In) (h : served c s i = true) : s.bufValid = true := by
  simp only [served, step, Bool.or_eq_true, Bool.and_eq_true] at h
  rcases h with h | h <;> simp [h]

theorem served_queue (c : Cfg) (s : State) (i : In) (h : served c s i = true) : 0 < (queue c s).length := by
  simp [queue, served_head c s i h]

/-- `req.lock`; at depth 0 it looks at the inputs -/
theorem lock_eq (c : Cfg) (hd : 1 ≤ c.depth) (s : State) (i : In) : (step c s i).2.lock = !(queue c s).isEmpty := by
  have e0 : (c.depth == 0) = false := beq_false_of_ne (by omega)
  simp only [step, e0, Bool.false_eq_true, if_false, queue, fifoList]
  cases s.bufValid
  · cases hl : s.level <;> simp [List.range_succ_eq_map]
  · simp

def inc (depth p : Nat) : Nat := if p + 1 == depth then 0 else p + 1

theorem idx_eq_mod {depth consume k : Nat} (hc : consume < depth) (hk : k ≤ depth) : idx depth consume k = (consume + k) % depth :=
  NatBits.wrap_eq_mod (by omega)

theorem inc_eq_mod {depth p : Nat} (hp : p < depth) : inc depth p = (p + 1) % depth :=
  NatBits.succ_wrap_eq_mod hp

/-- `fifoList` with storage and pointers as separate arguments, so that a write or a pointer move can be stated -/
def contents (depth : Nat) (mem : Array Entry) (consume level : Nat) : List Entry :=
  (List.range level).map fun k => mem[idx depth consume k]!

theorem contents_eq_window (depth : Nat) (mem : Array Entry) (consume level : Nat) (hc : consume < depth) (hl : level ≤ depth) :
    contents depth mem consume level = Queue.window (fun a => mem[a]!) depth consume level :=
  List.map_congr_left fun k hk => by rw [idx_eq_mod hc (by have := List.mem_range.mp hk; omega)]

theorem contents_set_other (depth : Nat) (mem : Array Entry) (consume level p : Nat) (e : Entry) (hc : consume < depth)
    (hp : ∀ k, k < level → idx depth consume k ≠ p) :
    contents depth (mem.set! p e) consume level = contents depth mem consume level := by
  apply List.ext_getElem
  · simp [contents]
  · intro n h1 h2
    simp only [contents, List.length_map, List.length_range] at h1
    simp only [contents, List.getElem_map, List.getElem_range]
    exact Array.getElem!_set!_ne _ _ _ _ (hp n h1).symm

theorem fifoList_eq (s : State) (depth : Nat) : fifoList s depth = contents depth s.mem s.consume s.level := rfl

theorem FInv.prod_mod {c : Cfg} {s : State} (h : FInv c s) : s.produce = (s.consume + s.level) % c.depth := by
  rcases h.prod with h1 | ⟨h1, h2⟩
  · rw [h1, idx_eq_mod h.cons h.lvl]
  · rw [h2, h1, Nat.add_mod_right, Nat.mod_eq_of_lt h.cons]

/-- depth ≥ 2: a real FIFO; `adv`: the `cmd_buffer` takes what the look-ahead FIFO shows -/
theorem step_regs (c : Cfg) (hd2 : 2 ≤ c.depth) (s : State) (i : In) :
    let adv := !s.bufValid || served c s i
    let pop := s.level != 0 && adv
    taken c s i = (i.valid && s.level != c.depth) ∧
    (step c s i).1.mem = (if taken c s i then s.mem.set! s.produce ⟨i.we, i.addr⟩ else s.mem) ∧
    (step c s i).1.produce = (if taken c s i then inc c.depth s.produce else s.produce) ∧
    (step c s i).1.consume = (if pop then inc c.depth s.consume else s.consume) ∧
    (step c s i).1.level = (if taken c s i then (if !pop then s.level + 1 else s.level) else if pop then s.level - 1 else s.level) ∧
    (step c s i).1.bufValid = (if adv then s.level != 0 else s.bufValid) ∧
    (step c s i).1.buf = (if adv then s.mem[s.consume]! else s.buf) := by
  have e0 : (c.depth == 0) = false := beq_false_of_ne (by omega)
  have e1 : (c.depth == 1) = false := beq_false_of_ne (by omega)
  simp only [taken, served, step, inc, e0, e1, Bool.false_eq_true, if_false, Bool.or_self, and_self]

theorem finv_step {c : Cfg} {s s' : State} {wr rd : Bool} {e : Entry} (h : FInv c s)
    (hw : wr = true → s.level < c.depth) (hr : rd = true → 0 < s.level)
    (hmem : s'.mem = if wr then s.mem.set! s.produce e else s.mem)
    (hprod : s'.produce = if wr then (s.produce + 1) % c.depth else s.produce)
    (hcons : s'.consume = if rd then (s.consume + 1) % c.depth else s.consume)
    (hlev : s'.level = s.level + (if wr then 1 else 0) - (if rd then 1 else 0)) : FInv c s' := by
  have hc' : s'.consume < c.depth := hcons ▸ Queue.pointer_step_lt rd h.cons
  have hl' : s'.level ≤ c.depth := hlev ▸ Queue.level_step_le h.lvl hw _
  refine { size := ?_, cons := hc', lvl := hl', prod := Or.inl ?_ }
  · rw [hmem]; split <;> simp [h.size]
  · rw [idx_eq_mod hc' hl', hprod, hcons, hlev]
    exact Queue.pointers_step h.prod_mod hr

/-- Two stages in series (`Queue.conserve_comp`): the circular store (`Queue.window_step`) feeds the one-entry buffer. -/
theorem queue_step (c : Cfg) (hd2 : 2 ≤ c.depth) (s : State) (i : In) (h : FInv c s) :
    FInv c (step c s i).1 ∧
    (if served c s i then [s.buf] else []) ++ queue c (step c s i).1 =
      queue c s ++ (if taken c s i then [⟨i.we, i.addr⟩] else []) := by
  obtain ⟨htk, hmem, hprod, hcons, hlev, hbv, hbuf⟩ := step_regs c hd2 s i
  have hsv := served_head c s i
  generalize served c s i = sv at *
  generalize taken c s i = tk at *
  generalize hpop : (s.level != 0 && (!s.bufValid || sv)) = pop at *
  have hpm := h.prod_mod
  have hw : tk = true → s.level < c.depth := by
    intro e; rw [htk] at e; simp at e; have := h.lvl; omega
  have hr : pop = true → 0 < s.level := by
    intro e; rw [← hpop] at e; simp at e; omega
  have hlev' : (step c s i).1.level = s.level + (if tk then 1 else 0) - (if pop then 1 else 0) := by
    rw [hlev]; cases tk <;> cases pop <;> simp
  rw [inc_eq_mod h.cons] at hcons
  rw [inc_eq_mod (hpm ▸ Nat.mod_lt _ (by omega))] at hprod
  have hF := finv_step h hw hr hmem hprod hcons hlev'
  refine ⟨hF, ?_⟩
  have A := Queue.window_step (get := fun a => s.mem[a]!) (get' := fun a => (step c s i).1.mem[a]!) (d := ⟨i.we, i.addr⟩)
    h.cons hw hr
    (fun e => by
      simp only [hmem, e, if_true, ← hpm]
      exact Array.getElem!_set!_self _ _ _ (by rw [h.size, hpm]; exact Nat.mod_lt _ (by omega)))
    (fun a ha => by
      simp only [hmem]
      split
      next e => exact Array.getElem!_set!_ne _ _ _ _ (Ne.symm (hpm ▸ ha e))
      next => rfl)
  have B : (if sv then [s.buf] else []) ++ (if (step c s i).1.bufValid then [(step c s i).1.buf] else []) =
      (if s.bufValid then [s.buf] else []) ++ (if pop then [s.mem[s.consume]!] else []) := by
    rw [hbv, hbuf, ← hpop]
    cases hb : s.bufValid <;> cases hs : sv <;> simp
    all_goals exact absurd (hsv hs) (by simp [hb])
  simp only [queue, fifoList_eq]
  rw [contents_eq_window _ _ _ _ hF.cons hF.lvl, contents_eq_window _ _ _ _ h.cons h.lvl, hcons, hlev']
  exact Queue.conserve_comp A B

/-- run a bank machine, logging the requests it accepts and the requests its RD/WR commands serve -/
def runLog (c : Cfg) : State → List Entry → List Entry → List In → State × List Entry × List Entry
  | s, acc, srv, [] => (s, acc, srv)
  | s, acc, srv, i :: rest =>
    runLog c (step c s i).1 (if taken c s i then acc ++ [⟨i.we, i.addr⟩] else acc) (if served c s i then srv ++ [s.buf] else srv) rest

theorem runLog_inv (c : Cfg) (hd2 : 2 ≤ c.depth) (ins : List In) :
    ∀ s acc srv, FInv c s → acc = srv ++ queue c s →
      FInv c (runLog c s acc srv ins).1 ∧
      (runLog c s acc srv ins).2.1 = (runLog c s acc srv ins).2.2 ++ queue c (runLog c s acc srv ins).1 := by
  induction ins with
  | nil => intro s acc srv h1 h2; exact ⟨h1, h2⟩
  | cons i rest ih =>
    intro s acc srv h1 h2
    obtain ⟨h3, h4⟩ := queue_step c hd2 s i h1
    apply ih _ _ _ h3
    -- both logs are accumulated, so the step law prefixed by `srv` is all there is to show
    rw [h2, Lists.ite_append, Lists.ite_append, List.append_assoc, List.append_assoc]
    exact congrArg (srv ++ ·) h4.symm

end BmQueue
