/-
List and array facts that core does not have, in the shapes the models produce: a conditional `cons` / `append` (how their runs
collect outputs), `(Array.range n).map f` (how they build per-bank / per-port arrays), `[i]!` through `map`.
-/
namespace Lists

theorem any_congr_mem {α : Type} (l : List α) (f g : α → Bool) (h : ∀ x ∈ l, f x = g x) :
    l.any f = l.any g := by
  induction l with
  | nil => rfl
  | cons x xs ih =>
    rw [List.any_cons, List.any_cons, h x List.mem_cons_self,
      ih fun y hy => h y (List.mem_cons_of_mem _ hy)]

theorem foldl_congr_mem {α β : Type} (l : List α) (f g : β → α → β) (z : β)
    (h : ∀ acc, ∀ x ∈ l, f acc x = g acc x) : l.foldl f z = l.foldl g z := by
  induction l generalizing z with
  | nil => rfl
  | cons x xs ih =>
    rw [List.foldl_cons, List.foldl_cons, h z x List.mem_cons_self,
      ih _ fun acc y hy => h acc y (List.mem_cons_of_mem _ hy)]

theorem map_ite_singleton {α β : Type} (f : α → β) (b : Bool) (x : α) :
    List.map f (if b then [x] else []) = if b then [f x] else [] := by
  cases b <;> rfl

theorem ite_append {α : Type} (b : Bool) (l x : List α) : (if b then l ++ x else l) = l ++ (if b then x else []) := by
  cases b <;> simp

theorem ite_cons {α : Type} (b : Bool) (x : α) (l : List α) : (if b then x :: l else l) = (if b then [x] else []) ++ l := by
  cases b <;> rfl

theorem ite_snoc_append {α : Type} (b : Bool) (ws : List α) (x : α) (rest : List α) :
    (if b then ws ++ [x] else ws) ++ rest = ws ++ (if b then x :: rest else rest) := by
  cases b <;> simp

theorem getElem!_map {α β : Type} [Inhabited α] [Inhabited β] (arr : Array α) (f : α → β) (j : Nat) (h : j < arr.size) :
    (arr.map f)[j]! = f arr[j]! := by
  rw [getElem!_pos (arr.map f) j (by simpa using h), getElem!_pos arr j h]
  simp

theorem getElem!_range (n i : Nat) (h : i < n) : (Array.range n)[i]! = i := by
  rw [getElem!_pos _ _ (by simpa using h)]
  simp

theorem getElem!_map_range {α : Type} [Inhabited α] (n i : Nat) (f : Nat → α) (h : i < n) :
    ((Array.range n).map f)[i]! = f i := by
  rw [getElem!_map _ _ _ (by simpa using h), getElem!_range n i h]

/-- out of range `[j]!` is `default` on both sides -/
theorem getElem!_map_default {α β : Type} [Inhabited α] [Inhabited β] (arr : Array α) (f : α → β) (hf : f default = default)
    (j : Nat) : (arr.map f)[j]! = f arr[j]! := by
  by_cases h : j < arr.size
  · exact getElem!_map arr f j h
  · rw [getElem!_neg _ j (by simpa using h), getElem!_neg arr j h, hf]

theorem getElem!_map_true {α : Type} [Inhabited α] (arr : Array α) (f : α → Bool) (j : Nat) (h : (arr.map f)[j]! = true) :
    j < arr.size ∧ f arr[j]! = true := by
  by_cases hj : j < arr.size
  · exact ⟨hj, getElem!_map arr f j hj ▸ h⟩
  · rw [getElem!_neg _ j (by simpa using hj)] at h
    cases h

theorem any_map_range {α : Type} (n : Nat) (f : Nat → α) (p : α → Bool) :
    ((Array.range n).map f).any p = (List.range n).any (fun i => p (f i)) := by
  rw [← Array.any_toList]; simp [List.any_map]; rfl

theorem all_map_range {α : Type} (n : Nat) (f : Nat → α) (p : α → Bool) :
    ((Array.range n).map f).all p = true ↔ ∀ i, i < n → p (f i) = true := by
  rw [Array.all_eq_true]; simp

theorem foldl_map_range {α β : Type} (n : Nat) (f : Nat → α) (g : β → α → β) (z : β) :
    ((Array.range n).map f).foldl g z = (List.range n).foldl (fun acc i => g acc (f i)) z := by
  rw [← Array.foldl_toList]; simp [List.foldl_map]

theorem filter_range_singleton (n k : Nat) (p : Nat → Bool) (hk : k < n) (hp : ∀ r, r < n → (p r = true ↔ r = k)) :
    (List.range n).filter p = [k] := by
  have : (List.range n).filter p = (List.range n).filter (· == k) :=
    List.filter_congr fun r hr => Bool.eq_iff_iff.mpr (by rw [hp r (List.mem_range.mp hr), beq_iff_eq])
  rw [this, List.filter_beq, List.count_range, if_pos hk]
  rfl

theorem not_or_of_imp {v r : Bool} (h : v = true → r = true) : (!v || r) = true := by
  cases v
  · rfl
  · exact h rfl

theorem getD_map_fn {α β : Type} (l : List α) (g : α → β) (n : Nat) (d : α) (e : β) (hd : g d = e) :
    (l.map g).getD n e = g (l.getD n d) := by
  simp [← hd, List.getD_eq_getElem?_getD, List.getElem?_map]

theorem lookup_zip_not_mem {α β : Type} [BEq α] [LawfulBEq α] (L : List α) (data : List β) (c : α) (h : c ∉ L) :
    (L.zip data).lookup c = none := by
  rw [List.lookup_eq_none_iff]
  intro (a, b) hab
  have : c ≠ a := fun e => h (e ▸ (List.of_mem_zip hab).1)
  simpa using this

theorem lookup_zip_map {α : Type} [BEq α] [LawfulBEq α] (L : List α) (hL : L.Nodup) (data : List Bool)
    (h : data.length ≤ L.length) (f : α → Bool) (hf : ∀ c ∈ L, f c = ((L.zip data).lookup c).getD false) :
    (L.map f).take data.length = data := by
  induction L generalizing data with
  | nil => cases data <;> simp_all
  | cons a L ih =>
    cases data with
    | nil => simp
    | cons d ds =>
      have hn := List.nodup_cons.mp hL
      have hfa : f a = d := by simp [hf a List.mem_cons_self]
      -- `a` is not in `L`, so looking up an element of `L` skips the head of the zip
      have hrest : ∀ c ∈ L, f c = ((L.zip ds).lookup c).getD false := fun c hc => by
        simp [hf c (List.mem_cons_of_mem _ hc), List.lookup_cons,
          beq_false_of_ne fun e : c = a => hn.1 (e ▸ hc)]
      simp [hfa, ih hn.2 ds (by simpa using h) hrest]

theorem count_mem_range (ps : List Nat) (n : Nat) (hnd : ps.Nodup) (hlt : ∀ p ∈ ps, p < n) :
    (List.range n).countP (fun i => decide (i ∈ ps)) = ps.length := by
  rw [List.countP_eq_length_filter]
  apply List.Perm.length_eq
  rw [List.perm_ext_iff_of_nodup (List.nodup_range.filter _) hnd]
  intro a
  simp only [List.mem_filter, List.mem_range, decide_eq_true_eq]
  exact ⟨fun h => h.2, fun h => ⟨hlt a h, h⟩⟩

/-- induction step of a run that collects `f k, f (k + 1), …`, one per clock with `acc`; `P j`: the run's invariant at its end
state, `j` the position reached -/
theorem collect_step {α : Type} {P : Nat → Prop} {f : Nat → α} {acc : Bool} {x : α} {rest : List α} (k : Nat)
    (hx : acc = true → x = f k)
    (ih : ∃ m, P ((if acc then k + 1 else k) + m) ∧ rest = (List.range' (if acc then k + 1 else k) m).map f) :
    ∃ m, P (k + m) ∧ (if acc then x :: rest else rest) = (List.range' k m).map f := by
  obtain ⟨m, hm, hl⟩ := ih
  cases acc
  · exact ⟨m, hm, hl⟩
  · rw [if_pos rfl, Nat.add_assoc, Nat.add_comm 1 m] at hm
    exact ⟨m + 1, hm, by simp [hl, hx rfl, List.range'_succ]⟩

end Lists
