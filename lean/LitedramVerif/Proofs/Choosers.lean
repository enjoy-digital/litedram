/-
`Controller.step` read signal by signal, from the model alone: the combinational signals by name, the next state in terms of
them, and what it means that a chooser accepts (`ReqAcc`, `CmdAcc`).  Safety and liveness both read the controller through these.
-/
import LitedramVerif.Model.Controller
import LitedramVerif.Proofs.Lists
import LitedramVerif.Proofs.BmStep
namespace CtlInv
open Controller Hw

def roOf (c : Cfg) (s : State) := Refresher.out c.rf s.rf
def reqsOf (c : Cfg) (s : State) (ins : Array BankIn) : Array BankMachine.Req :=
  (Array.range c.nbm).map fun i =>
    let x := ins[i]!
    BankMachine.req c.bm s.bms[i]! x.valid x.we x.addr (roOf c s).valid

def goRefreshOf (c : Cfg) (s : State) (ins : Array BankIn) : Bool := (reqsOf c s ins).all fun r => r.refreshGnt

/-- `Multiplexer`'s control FSM (litedram/core/multiplexer.py); `.rtw k` counts its `delayed_enter("RTW", "WRITE", read_latency - 1)` -/
def fsmNext (c : Cfg) (s : State) (ins : Array BankIn) : Fsm :=
  let reqs := reqsOf c s ins
  let readAvail := reqs.any fun r => r.valid && r.isRead
  let writeAvail := reqs.any fun r => r.valid && r.isWrite
  let maxRead := (antiStarve c.readTime s.readTimer (s.fsm == .read)).2
  let maxWrite := (antiStarve c.writeTime s.writeTimer (s.fsm == .write)).2
  let rtwEntry : Fsm := if c.readLatency - 1 > 0 then .rtw 0 else .write
  match s.fsm with
    | .read => if goRefreshOf c s ins then .refresh else if writeAvail && (!readAvail || maxRead) then rtwEntry else .read
    | .write => if goRefreshOf c s ins then .refresh else if readAvail && (!writeAvail || maxWrite) then .wtr else .write
    | .refresh => if (roOf c s).last then .read else .refresh
    | .wtr => if s.twtr.ready then .read else .wtr
    | .rtw k => if k + 1 < c.readLatency - 1 then .rtw (k + 1) else .write

theorem step_fsm (c : Cfg) (s : State) (ins : Array BankIn) : (step c s ins).1.fsm = fsmNext c s ins := rfl
theorem step_rf (c : Cfg) (s : State) (ins : Array BankIn) : (step c s ins).1.rf = Refresher.step c.rf s.rf (s.fsm == .refresh) := rfl

/-- `choose_req.cmd`, `choose_cmd.cmd` of the multiplexer's two `_CommandChooser`s, and their `accept()` -/
structure Comb where
  cReq : Chosen
  cCmd : Chosen
  reqAccept : Bool
  cmdAccept : Bool

def combOf (c : Cfg) (s : State) (ins : Array BankIn) : Comb :=
  let reqs := reqsOf c s ins
  let rasAllowed := s.trrd.ready && s.tfaw.ready
  let casAllowed := s.tccd.ready
  let inRead := s.fsm == .read
  let inWrite := s.fsm == .write
  let one := c.nphases == 1
  let vReq := reqs.map fun r => chooserValid r inRead inWrite one (one && rasAllowed)
  let vCmd := reqs.map fun r => chooserValid r false false false ((inRead || inWrite) && rasAllowed)
  let cReq := choose reqs vReq s.grantReq
  let cCmd := choose reqs vCmd s.grantCmd
  let active := inRead || inWrite
  let reqReady := active && (if one then casAllowed && (!cReq.activate || rasAllowed) else casAllowed)
  let cmdReady := active && !one && (!cCmd.activate || rasAllowed)
  { cReq, cCmd, reqAccept := cReq.valid && reqReady, cmdAccept := cCmd.valid && cmdReady }

def bmReadyOf (c : Cfg) (s : State) (ins : Array BankIn) (i : Nat) : Bool :=
  let k := combOf c s ins
  (k.reqAccept && s.grantReq == i) || (k.cmdAccept && s.grantCmd == i)

def bmIn (c : Cfg) (s : State) (ins : Array BankIn) (i : Nat) : BankMachine.In :=
  let x := ins[i]!
  ⟨x.valid, x.we, x.addr, (roOf c s).valid, bmReadyOf c s ins i⟩

theorem bmIn_refresh (c : Cfg) (s : State) (ins : Array BankIn) (i : Nat) : (bmIn c s ins i).refresh = (roOf c s).valid := rfl

theorem step_bms_eq (c : Cfg) (s : State) (ins : Array BankIn) :
    (step c s ins).1.bms = ((Array.range c.nbm).map fun i => BankMachine.step c.bm s.bms[i]! (bmIn c s ins i)).map (·.1) := rfl

theorem step_bms (c : Cfg) (s : State) (ins : Array BankIn) (i : Nat) (h : i < c.nbm) :
    (step c s ins).1.bms[i]! = (BankMachine.step c.bm s.bms[i]! (bmIn c s ins i)).1 := by
  rw [step_bms_eq, Array.map_map, Lists.getElem!_map_range _ _ _ h]
  rfl

theorem step_bms_size (c : Cfg) (s : State) (ins : Array BankIn) : (step c s ins).1.bms.size = c.nbm := by
  rw [step_bms_eq]; simp

theorem step_bms_refresh (c : Cfg) (s : State) (ins : Array BankIn) (i : Nat) (h : i < c.nbm) :
    ((step c s ins).1.bms[i]!).fsm = .refresh ↔
      (roOf c s).valid = true ∧ ((s.bms[i]!).fsm = .regular ∨ (s.bms[i]!).fsm = .refresh) := by
  rw [step_bms c s ins i h, BmTiming.step_fsm_refresh, bmIn_refresh]

theorem step_outs_eq (c : Cfg) (s : State) (ins : Array BankIn) :
    (step c s ins).2 = ((Array.range c.nbm).map fun i => BankMachine.step c.bm s.bms[i]! (bmIn c s ins i)).map
      (fun (_, o) => ({ ready := o.reqReady, lock := o.lock, wdataReady := o.wdataReady, rdataValid := o.rdataValid } : BankOut)) := rfl

theorem step_outs (c : Cfg) (s : State) (ins : Array BankIn) (i : Nat) (h : i < c.nbm) :
    ((step c s ins).2[i]!) = (let o := (BankMachine.step c.bm s.bms[i]! (bmIn c s ins i)).2
      ({ ready := o.reqReady, lock := o.lock, wdataReady := o.wdataReady, rdataValid := o.rdataValid } : BankOut)) := by
  rw [step_outs_eq, Array.map_map, Lists.getElem!_map_range _ _ _ h]
  rfl

theorem step_outs_size (c : Cfg) (s : State) (ins : Array BankIn) : (step c s ins).2.size = c.nbm := by
  rw [step_outs_eq]; simp

theorem mux_next_refresh (c : Cfg) (s : State) (ins : Array BankIn) :
    fsmNext c s ins = .refresh ↔
      ((s.fsm = .read ∨ s.fsm = .write) ∧ goRefreshOf c s ins = true) ∨ (s.fsm = .refresh ∧ (roOf c s).last = false) := by
  unfold fsmNext
  cases hf : s.fsm <;> cases goRefreshOf c s ins <;> cases (roOf c s).last <;>
    simp only [if_true, Bool.false_eq_true, if_false] <;> (repeat' split) <;> simp

theorem mux_next_read (c : Cfg) (s : State) (ins : Array BankIn) (h : fsmNext c s ins = .read) :
    s.fsm = .read ∨ (s.fsm = .refresh ∧ (roOf c s).last = true) ∨ (s.fsm = .wtr ∧ s.twtr.ready = true) := by
  unfold fsmNext at h
  cases hf : s.fsm <;> rw [hf] at h <;> simp only [] at h
  · exact Or.inl rfl
  · repeat' split at h
    all_goals cases h
  · split at h
    · exact Or.inr (Or.inl ⟨rfl, by assumption⟩)
    · cases h
  · split at h
    · exact Or.inr (Or.inr ⟨rfl, by assumption⟩)
    · cases h
  · split at h <;> cases h

/-- `cas`: column command (write / read by `we`); `ras`: row command (precharge / activate by `we`) -/
structure ReqShape (r : BankMachine.Req) : Prop where
  ras : r.ras = (r.valid && !r.cas)
  isRead : r.isRead = (r.cas && !r.we)
  isWrite : r.isWrite = (r.cas && r.we)
  isCmd : r.valid = true → r.isCmd = !r.cas

theorem req_shape (c : BankMachine.Cfg) (s : BankMachine.State) (v w : Bool) (a : Nat) (rf : Bool) :
    ReqShape (BankMachine.req c s v w a rf) := by
  -- `BankMachine.step` forms the lines from its conditions for a column command (`cc`), a precharge (`pc`) and an activate (`ac`)
  have shape (cc pc ac rfr bw g : Bool) (a : Nat) (h : cc = true → pc = false ∧ ac = false ∧ rfr = false) :
      ReqShape { valid := cc || pc || ac, a := a, cas := cc, ras := pc || ac, we := (cc && bw) || pc, isCmd := pc || ac || rfr,
                 isRead := cc && !bw, isWrite := cc && bw, refreshGnt := g } := by
    cases cc
    · constructor <;> simp <;> exact Or.inl
    · obtain ⟨rfl, rfl, rfl⟩ := h rfl
      constructor <;> simp
  -- a column command is only offered in REGULAR; precharge, activate and the refresh grant test states of their own
  refine shape _ _ _ _ _ _ _ fun h => ?_
  have : s.fsm = .regular := by simp only [Bool.and_eq_true, beq_iff_eq, and_assoc] at h; exact h.1
  simp [this]

def reqJ (c : Controller.Cfg) (s : State) (ins : Array BankIn) (j : Nat) : BankMachine.Req :=
  BankMachine.req c.bm s.bms[j]! (ins[j]!).valid (ins[j]!).we (ins[j]!).addr (roOf c s).valid

theorem reqJ_shape (c : Controller.Cfg) (s : State) (ins : Array BankIn) (j : Nat) : ReqShape (reqJ c s ins j) := req_shape ..

theorem reqJ_isWrite (c : Controller.Cfg) (s : State) (ins : Array BankIn) (j : Nat) :
    (reqJ c s ins j).isWrite = ((reqJ c s ins j).cas && (s.bms[j]!).buf.we) := BmTiming.req_isWrite ..
theorem reqJ_we (c : Controller.Cfg) (s : State) (ins : Array BankIn) (j : Nat) :
    (reqJ c s ins j).we = ((reqJ c s ins j).isWrite ||
      ((s.bms[j]!).fsm == .precharge && (s.bms[j]!).twtp.ready && (s.bms[j]!).tras.ready)) := BmTiming.req_we ..

theorem bm_wdataReady (c : Controller.Cfg) (s : State) (ins : Array BankIn) (j : Nat) :
    (BankMachine.step c.bm s.bms[j]! (bmIn c s ins j)).2.wdataReady = ((reqJ c s ins j).isWrite && bmReadyOf c s ins j) :=
  BmTiming.step_wdataReady ..
theorem bm_rdataValid (c : Controller.Cfg) (s : State) (ins : Array BankIn) (j : Nat) :
    (BankMachine.step c.bm s.bms[j]! (bmIn c s ins j)).2.rdataValid = ((reqJ c s ins j).isRead && bmReadyOf c s ins j) :=
  BmTiming.step_rdataValid ..

theorem reqsOf_get (c : Controller.Cfg) (s : State) (ins : Array BankIn) (j : Nat) (hj : j < c.nbm) :
    (reqsOf c s ins)[j]! = reqJ c s ins j := by
  unfold reqsOf; rw [Lists.getElem!_map_range _ _ _ hj]; rfl

theorem reqsOf_size (c : Controller.Cfg) (s : State) (ins : Array BankIn) : (reqsOf c s ins).size = c.nbm := by
  simp [reqsOf]

theorem reqs_all (c : Cfg) (s : State) (ins : Array BankIn) (p : BankMachine.Req → Bool) :
    (reqsOf c s ins).all p = true ↔ ∀ j, j < c.nbm → p (reqJ c s ins j) = true := Lists.all_map_range _ _ _

theorem reqs_any (c : Cfg) (s : State) (ins : Array BankIn) (p : BankMachine.Req → Bool) :
    (reqsOf c s ins).any p = true ↔ ∃ j, j < c.nbm ∧ p (reqJ c s ins j) = true := by
  rw [reqsOf, Lists.any_map_range, List.any_eq_true]
  simp only [List.mem_range]; rfl

theorem bms_refresh_of_goRefresh (c : Cfg) (s : State) (ins : Array BankIn) (h : goRefreshOf c s ins = true) :
    ∀ i, i < c.nbm → (s.bms[i]!).fsm = .refresh := by
  intro i hi
  have h' := (reqs_all c s ins _).mp h i hi
  simp only [reqJ, BmTiming.req_refreshGnt, Bool.and_eq_true, beq_iff_eq] at h'
  exact h'.1.1

theorem map_reqs_get (c : Controller.Cfg) (s : State) (ins : Array BankIn) (f : BankMachine.Req → Bool) (j : Nat) :
    ((reqsOf c s ins).map f)[j]! = (decide (j < c.nbm) && f (reqJ c s ins j)) := by
  by_cases hj : j < c.nbm
  · have hs : j < (reqsOf c s ins).size := by rw [reqsOf_size]; exact hj
    rw [← reqsOf_get c s ins j hj, getElem!_pos (reqsOf c s ins) j hs, getElem!_pos (Array.map f _) j (by simpa using hs)]
    simp [hj]
  · rw [getElem!_neg _ j (by simpa [reqsOf_size] using hj)]
    simp [hj]

def vReqOf (c : Cfg) (s : State) (ins : Array BankIn) : Array Bool :=
  (reqsOf c s ins).map fun r => chooserValid r (s.fsm == .read) (s.fsm == .write) (c.nphases == 1) (c.nphases == 1 && (s.trrd.ready && s.tfaw.ready))
def vCmdOf (c : Cfg) (s : State) (ins : Array BankIn) : Array Bool :=
  (reqsOf c s ins).map fun r => chooserValid r false false false ((s.fsm == .read || s.fsm == .write) && (s.trrd.ready && s.tfaw.ready))
def reqReadyOf (c : Cfg) (s : State) (ins : Array BankIn) : Bool :=
  (s.fsm == .read || s.fsm == .write) &&
    (if c.nphases == 1 then s.tccd.ready && (!(combOf c s ins).cReq.activate || (s.trrd.ready && s.tfaw.ready)) else s.tccd.ready)
def cmdReadyOf (c : Cfg) (s : State) (ins : Array BankIn) : Bool :=
  (s.fsm == .read || s.fsm == .write) && !(c.nphases == 1) && (!(combOf c s ins).cCmd.activate || (s.trrd.ready && s.tfaw.ready))

theorem reqAccept_eq (c : Cfg) (s : State) (ins : Array BankIn) :
    (combOf c s ins).reqAccept = ((combOf c s ins).cReq.valid && reqReadyOf c s ins) := rfl
theorem cmdAccept_eq (c : Cfg) (s : State) (ins : Array BankIn) :
    (combOf c s ins).cmdAccept = ((combOf c s ins).cCmd.valid && cmdReadyOf c s ins) := rfl
theorem combOf_cReq (c : Cfg) (s : State) (ins : Array BankIn) :
    (combOf c s ins).cReq = choose (reqsOf c s ins) (vReqOf c s ins) s.grantReq := rfl
theorem combOf_cCmd (c : Cfg) (s : State) (ins : Array BankIn) :
    (combOf c s ins).cCmd = choose (reqsOf c s ins) (vCmdOf c s ins) s.grantCmd := rfl
theorem cReq_valid (c : Cfg) (s : State) (ins : Array BankIn) : (combOf c s ins).cReq.valid = (vReqOf c s ins)[s.grantReq]! := rfl
theorem cCmd_valid (c : Cfg) (s : State) (ins : Array BankIn) : (combOf c s ins).cCmd.valid = (vCmdOf c s ins)[s.grantCmd]! := rfl

theorem step_grantReq (c : Cfg) (s : State) (ins : Array BankIn) :
    (step c s ins).1.grantReq = rrStep c.nbm s.grantReq (fun i => (vReqOf c s ins)[i]!) (reqReadyOf c s ins || !(combOf c s ins).cReq.valid) := rfl
theorem step_grantCmd (c : Cfg) (s : State) (ins : Array BankIn) :
    (step c s ins).1.grantCmd = rrStep c.nbm s.grantCmd (fun i => (vCmdOf c s ins)[i]!) (cmdReadyOf c s ins || !(combOf c s ins).cCmd.valid) := rfl

theorem bmReady_eq (c : Controller.Cfg) (s : State) (ins : Array BankIn) (j : Nat) :
    bmReadyOf c s ins j = (((combOf c s ins).reqAccept && s.grantReq == j) || ((combOf c s ins).cmdAccept && s.grantCmd == j)) := rfl

theorem bmReady_iff (c : Controller.Cfg) (s : State) (ins : Array BankIn) (j : Nat) :
    bmReadyOf c s ins j = true ↔
      ((combOf c s ins).reqAccept = true ∧ s.grantReq = j) ∨ ((combOf c s ins).cmdAccept = true ∧ s.grantCmd = j) := by
  simp [bmReady_eq]

def chosenOf (r : BankMachine.Req) (j : Nat) : Chosen :=
  { valid := true, a := r.a, ba := j, cas := r.cas, ras := r.ras, we := r.we, isCmd := r.isCmd, isRead := r.isRead, isWrite := r.isWrite }

theorem chosenOf_activate (r : BankMachine.Req) (j : Nat) : (chosenOf r j).activate = (r.ras && !r.cas && !r.we) := rfl

structure Serves (c : Cfg) (s : State) (ins : Array BankIn) (x : Chosen) (j : Nat) : Prop where
  lt : j < c.nbm
  active : s.fsm = .read ∨ s.fsm = .write
  valid : (reqJ c s ins j).valid = true
  eq : x = chosenOf (reqJ c s ins j) j
  ready : bmReadyOf c s ins j = true
  /-- a valid request with `cas` and `we` low is an ACTIVATE, taken only under `ras_allowed` -/
  rasGate : (reqJ c s ins j).cas = false → (reqJ c s ins j).we = false → s.trrd.ready = true ∧ s.tfaw.ready = true

structure ReqAcc (c : Cfg) (s : State) (ins : Array BankIn) : Prop extends Serves c s ins (combOf c s ins).cReq s.grantReq where
  ccd : s.tccd.ready = true
  col : (c.nphases == 1) = false → (reqJ c s ins s.grantReq).cas = true
  dir : (reqJ c s ins s.grantReq).cas = true → (reqJ c s ins s.grantReq).we = (s.fsm == .write)

structure CmdAcc (c : Cfg) (s : State) (ins : Array BankIn) : Prop extends Serves c s ins (combOf c s ins).cCmd s.grantCmd where
  multi : (c.nphases == 1) = false
  row : (reqJ c s ins s.grantCmd).cas = false

theorem chooserValid_shape (r : BankMachine.Req) (hs : ReqShape r) (rd wr cmds acts : Bool) :
    chooserValid r rd wr cmds acts =
      (r.valid && if r.cas then ((!r.we) == rd) && (r.we == wr) else (cmds && (r.we || acts)) || (!rd && !wr)) := by
  cases hv : r.valid
  · simp [chooserValid, hv]
  · simp only [chooserValid, hv, hs.isCmd hv, hs.isRead, hs.isWrite, hs.ras, Bool.true_and]
    cases r.cas <;> cases r.we <;> cases rd <;> cases wr <;> simp

theorem chosen_up (c : Cfg) (s : State) (ins : Array BankIn) (f : BankMachine.Req → Bool) (g : Nat) (x : Chosen)
    (hx : x = choose (reqsOf c s ins) ((reqsOf c s ins).map f) g) (h : x.valid = true) :
    g < c.nbm ∧ f (reqJ c s ins g) = true ∧ x = chosenOf (reqJ c s ins g) g := by
  subst hx
  have hv : ((reqsOf c s ins).map f)[g]! = true := h
  have hcv := hv
  rw [map_reqs_get, Bool.and_eq_true, decide_eq_true_eq] at hcv
  refine ⟨hcv.1, hcv.2, ?_⟩
  simp only [choose, hv, reqsOf_get c s ins _ hcv.1, Bool.true_and]; rfl

theorem req_acc (c : Cfg) (s : State) (ins : Array BankIn) (h : (combOf c s ins).reqAccept = true) : ReqAcc c s ins := by
  have hrdy : bmReadyOf c s ins s.grantReq = true := by simp [bmReady_eq, h]
  rw [reqAccept_eq, Bool.and_eq_true] at h
  obtain ⟨hlt, hcv, hx⟩ := chosen_up c s ins _ s.grantReq _ (combOf_cReq c s ins) h.1
  have hsh := reqJ_shape c s ins s.grantReq
  have hact : s.fsm = .read ∨ s.fsm = .write := by
    have hr := h.2
    cases hf : s.fsm <;> simp [reqReadyOf, hf] at hr <;> simp
  rw [chooserValid_shape _ hsh, Bool.and_eq_true] at hcv
  obtain ⟨hval, hk⟩ := hcv
  have hccd : s.tccd.ready = true := by
    have hr := h.2
    cases hone : (c.nphases == 1) <;> simp [reqReadyOf, hone] at hr <;> simp [hr]
  cases hc : (reqJ c s ins s.grantReq).cas <;> simp only [hc, Bool.false_eq_true, if_false, if_true] at hk
  · -- a row command: READ / WRITE want a direction, so it passed as a command (single phase), an ACTIVATE gated
    have hk' : (c.nphases == 1) = true ∧ ((reqJ c s ins s.grantReq).we = false → s.trrd.ready = true ∧ s.tfaw.ready = true) := by
      rcases hact with e | e <;> simp [e] at hk <;> exact ⟨by simpa using hk.1, fun hw => by simpa [hw, hk.1] using hk.2⟩
    exact { lt := hlt, active := hact, valid := hval, eq := hx, ready := hrdy, rasGate := fun _ => hk'.2, ccd := hccd,
            col := fun h => (by rw [hk'.1] at h; cases h), dir := fun h => (by rw [hc] at h; cases h) }
  · rw [Bool.and_eq_true] at hk
    exact { lt := hlt, active := hact, valid := hval, eq := hx, ready := hrdy, rasGate := fun h => (by rw [hc] at h; cases h),
            ccd := hccd, col := fun _ => hc, dir := fun _ => eq_of_beq hk.2 }

theorem cmd_acc (c : Cfg) (s : State) (ins : Array BankIn) (h : (combOf c s ins).cmdAccept = true) : CmdAcc c s ins := by
  have hrdy : bmReadyOf c s ins s.grantCmd = true := by simp [bmReady_eq, h]
  rw [cmdAccept_eq, Bool.and_eq_true] at h
  obtain ⟨hlt, hcv, hx⟩ := chosen_up c s ins _ s.grantCmd _ (combOf_cCmd c s ins) h.1
  have hsh := reqJ_shape c s ins s.grantCmd
  rw [chooserValid_shape _ hsh, Bool.and_eq_true] at hcv
  -- no direction is wanted of this chooser, so it never shows a column command
  have hrow : (reqJ c s ins s.grantCmd).cas = false := by
    cases hc : (reqJ c s ins s.grantCmd).cas
    · rfl
    · have hk := hcv.2
      rw [hc] at hk
      cases hw : (reqJ c s ins s.grantCmd).we <;> simp [hw] at hk
  have hr := h.2
  simp only [cmdReadyOf, hx, chosenOf_activate, hsh.ras, hcv.1, hrow, Bool.true_and, Bool.and_eq_true, Bool.or_eq_true,
    Bool.not_eq_true', beq_iff_eq] at hr
  exact { lt := hlt, active := hr.1.1, valid := hcv.1, eq := hx, ready := hrdy, rasGate := fun _ hw => (by simpa [hw] using hr.2),
          multi := hr.1.2, row := hrow }

theorem cmd_noaccept_one (c : Controller.Cfg) (s : State) (ins : Array BankIn) (hone : (c.nphases == 1) = true) :
    (combOf c s ins).cmdAccept = false :=
  Bool.eq_false_iff.mpr fun h => by rw [(cmd_acc c s ins h).multi] at hone; cases hone

theorem ready_serves (c : Controller.Cfg) (s : State) (ins : Array BankIn) (j : Nat) (h : bmReadyOf c s ins j = true) :
    ∃ x, Serves c s ins x j := by
  rcases (bmReady_iff c s ins j).mp h with ⟨ha, rfl⟩ | ⟨ha, rfl⟩
  · exact ⟨_, (req_acc c s ins ha).toServes⟩
  · exact ⟨_, (cmd_acc c s ins ha).toServes⟩

theorem bmReady_inactive (c : Controller.Cfg) (s : State) (ins : Array BankIn) (j : Nat)
    (hnr : s.fsm ≠ .read) (hnw : s.fsm ≠ .write) : bmReadyOf c s ins j = false :=
  Bool.eq_false_iff.mpr fun hr => by
    obtain ⟨_, hs⟩ := ready_serves c s ins j hr
    exact hs.active.elim hnr hnw

theorem init_bms (c : Cfg) (i : Nat) (hi : i < c.nbm) : (init c).bms[i]! = BankMachine.State.init c.bm := by
  simp only [init]
  rw [getElem!_pos _ _ (by simpa using hi)]
  simp

end CtlInv

namespace CtlTiming
open Controller Hw CtlInv

def actStrobeOf (c : Controller.Cfg) (s : State) (ins : Array BankIn) : Bool :=
  let k := combOf c s ins
  if c.nphases == 1 then k.reqAccept && k.cReq.activate else k.cmdAccept && k.cCmd.activate
def casStrobeOf (c : Controller.Cfg) (s : State) (ins : Array BankIn) : Bool :=
  let k := combOf c s ins
  k.reqAccept && (k.cReq.isWrite || k.cReq.isRead)
def wrStrobeOf (c : Controller.Cfg) (s : State) (ins : Array BankIn) : Bool :=
  let k := combOf c s ins
  k.reqAccept && k.cReq.isWrite

theorem step_trrd (c : Controller.Cfg) (s : State) (ins : Array BankIn) :
    (step c s ins).1.trrd = TX.step c.tRRD s.trrd (actStrobeOf c s ins) := rfl
theorem step_tfaw (c : Controller.Cfg) (s : State) (ins : Array BankIn) :
    (step c s ins).1.tfaw = TF.step c.tFAW s.tfaw (actStrobeOf c s ins) := rfl
theorem step_tccd (c : Controller.Cfg) (s : State) (ins : Array BankIn) :
    (step c s ins).1.tccd = TX.step (some c.tCCD) s.tccd (casStrobeOf c s ins) := rfl
theorem step_twtr (c : Controller.Cfg) (s : State) (ins : Array BankIn) :
    (step c s ins).1.twtr = TX.step (some c.twtr) s.twtr (wrStrobeOf c s ins) := rfl

end CtlTiming
