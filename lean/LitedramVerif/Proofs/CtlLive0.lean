/-
What the four liveness files share (`bmValid`, `bmGnt`, `MOk` with `mok_reachable` / `cinv_reachable`, `runCtl`, `muxCap`, the tFAW
potential), and the multi-phase part of the bounded liveness of the refresh handshake (Props/C04_Controller.lean).
While the refresher waits (`Pending`) the bank machines offer row commands only, and `omegaB` = `muxWait` +
(round-robin distance of the grant) · (`rasInc` + 1) + `rasWait` bounds the cycles until the multiplexer accepts that of
bank machine b; the last two terms (`omegaA`) fall in READ/WRITE whatever the traffic.
-/
import LitedramVerif.Proofs.BmLive
import LitedramVerif.Proofs.ControllerInv
import LitedramVerif.Proofs.Run
import LitedramVerif.Props.C05
namespace CtlLive
open Controller Hw CtlInv BmLive

/-- the bank machine offers a row command (PRECHARGE or ACTIVATE) -/
def bmValid (s : BankMachine.State) : Bool :=
  (s.fsm == .precharge && s.twtp.ready && s.tras.ready) || (s.fsm == .activate && s.trc.ready)
/-- the bank machine's `refresh_gnt` -/
def bmGnt (s : BankMachine.State) : Bool := s.fsm == .refresh && s.twtp.ready && s.tras.ready

theorem reqJ_ras (c : Cfg) (s : State) (ins : Array BankIn) (j : Nat) : (reqJ c s ins j).ras = bmValid s.bms[j]! :=
  BmTiming.req_ras ..
theorem reqJ_gnt (c : Cfg) (s : State) (ins : Array BankIn) (j : Nat) : (reqJ c s ins j).refreshGnt = bmGnt s.bms[j]! :=
  BmTiming.req_refreshGnt ..

/-- the refresher waits for the bank machines -/
def Pending (c : Cfg) (s : State) : Prop := (roOf c s).valid = true

/-- the request of bank machine `j` while `refresh_req` is up: a row command or nothing -/
structure PendingReq (c : Cfg) (s : State) (ins : Array BankIn) (j : Nat) : Prop where
  cas : (reqJ c s ins j).cas = false
  isRead : (reqJ c s ins j).isRead = false
  isWrite : (reqJ c s ins j).isWrite = false
  valid : (reqJ c s ins j).valid = bmValid s.bms[j]!
  ras : (reqJ c s ins j).ras = (reqJ c s ins j).valid
  we : (reqJ c s ins j).we = ((s.bms[j]!).fsm == .precharge && (s.bms[j]!).twtp.ready && (s.bms[j]!).tras.ready)

theorem reqJ_pending (c : Cfg) (s : State) (ins : Array BankIn) (hp : Pending c s) (j : Nat) : PendingReq c s ins j := by
  have sh := reqJ_shape c s ins j
  have hc : (reqJ c s ins j).cas = false := by rw [reqJ, BmTiming.req_cas, hp]; simp
  have hr : (reqJ c s ins j).ras = (reqJ c s ins j).valid := by rw [sh.ras, hc]; simp
  have hw : (reqJ c s ins j).isWrite = false := by rw [sh.isWrite, hc]; rfl
  exact { cas := hc, isRead := by rw [sh.isRead, hc]; rfl, isWrite := hw, valid := by rw [← hr, reqJ_ras], ras := hr,
          we := by rw [reqJ_we, hw]; rfl }

/-- no direction is wanted of the command chooser, so it shows every row command, gates open or not -/
theorem vCmd_eq (c : Cfg) (s : State) (ins : Array BankIn) (j : Nat) (hj : j < c.nbm) : (vCmdOf c s ins)[j]! = bmValid s.bms[j]! := by
  rw [vCmdOf, map_reqs_get, decide_eq_true hj, chooserValid_shape _ (reqJ_shape c s ins j), ← reqJ_ras c s ins, (reqJ_shape c s ins j).ras]
  cases (reqJ c s ins j).cas <;> cases (reqJ c s ins j).we <;> rfl

theorem bmReady_row (c : Cfg) (hone : (c.nphases == 1) = false) (s : State) (ins : Array BankIn) (b : Nat)
    (h : bmValid s.bms[b]! = true) : bmReadyOf c s ins b = ((combOf c s ins).cmdAccept && s.grantCmd == b) := by
  have hrow := (reqJ_shape c s ins b).ras
  rw [reqJ_ras, h] at hrow
  rw [bmReady_eq]
  cases hra : (combOf c s ins).reqAccept
  · simp
  · have hne : (s.grantReq == b) = false := by
      cases hh : (s.grantReq == b)
      · rfl
      · have hc := (req_acc c s ins hra).col hone
        rw [show s.grantReq = b by simpa using hh] at hc; simp [hc] at hrow
    simp [hne]

/-- cycles until the multiplexer FSM is back in READ or WRITE -/
def muxWait (c : Cfg) (s : State) : Nat :=
  match s.fsm with
  | .wtr => rem (some c.twtr) s.twtr + 1
  | .rtw k => (c.readLatency - 1 - k) + 1
  | _ => 0

/-- total remaining lifetime of the activates in the tFAW window (`t` for the newest position, one less for each older one) -/
def tfMu : Nat → List Bool → Nat
  | _, [] => 0
  | t, b :: rest => (if b then t else 0) + tfMu (t - 1) rest

/-- full length, so that the activate at position `k` leaves the window after `f - k` more cycles (`tfMu_pred`) -/
def TfOk (t : Option Nat) (s : TF) : Prop :=
  match t with
  | none => s.ready = true
  | some f => s.window.length = f

/-- the `+ 1`: `ready` is registered from the count before the edge, so it comes up a cycle after the window has emptied enough -/
def tfPot (t : Option Nat) (s : TF) : Nat :=
  match t with
  | none => 0
  | some f => tfMu f s.window + (if s.ready then 0 else 1)

/-- an upper bound on the cycles until activates are allowed again (tRRD and tFAW gates), given no further activate -/
def rasWait (c : Cfg) (s : State) : Nat := rem c.tRRD s.trrd + tfPot c.tFAW s.tfaw

theorem tfMu_zero (l : List Bool) : tfMu 0 l = 0 := by
  induction l with
  | nil => rfl
  | cons x xs ih => simp [tfMu, ih]

theorem tfMu_take (t : Nat) (w : List Bool) : tfMu t (w.take t) = tfMu t w := by
  induction w generalizing t with
  | nil => simp [tfMu]
  | cons b rest ih =>
    cases t with
    | zero => simp [tfMu, tfMu_zero]
    | succ n => simp [List.take_succ_cons, tfMu, ih]

theorem tfMu_push (f : Nat) (v : Bool) (w : List Bool) : tfMu f ((v :: w).take f) = (if v then f else 0) + tfMu (f - 1) w := by
  rw [tfMu_take]; rfl

theorem tfMu_pred (t : Nat) (w : List Bool) (hl : w.length ≤ t) : tfMu (t - 1) w + (w.filter id).length = tfMu t w := by
  induction w generalizing t with
  | nil => simp [tfMu]
  | cons b rest ih =>
    simp only [List.length_cons] at hl
    have := ih (t - 1) (by omega)
    simp only [tfMu]
    cases b <;> simp <;> omega

theorem tfok_init (t : Option Nat) : TfOk t (TF.init t) := by cases t <;> simp [TfOk, TF.init]

theorem tfok_step (t : Option Nat) (s : TF) (v : Bool) (h : TfOk t s) : TfOk t (TF.step t s v) := by
  cases t with
  | none => simpa [TfOk, TF.step] using h
  | some f => simp only [TfOk, tf_step_window] at *; simp [List.length_take]; omega

theorem tfPot_zero (t : Option Nat) (s : TF) (h : TfOk t s) (h0 : tfPot t s = 0) : s.ready = true := by
  cases t with
  | none => exact h
  | some f => cases hr : s.ready <;> simp [tfPot, hr] at h0 ⊢

theorem tfPot_idle (t : Option Nat) (s : TF) (h : TfOk t s) :
    tfPot t (TF.step t s false) ≤ tfPot t s ∧ (s.ready = false → tfPot t (TF.step t s false) + 1 ≤ tfPot t s) := by
  cases t with
  | none => simp only [TfOk] at h; simp [tfPot, h]
  | some f =>
    simp only [TfOk] at h
    have hp := tfMu_pred f s.window (by omega)
    have hq : (s.window.filter id).length % 2 ^ maxBits (max f 2) ≤ (s.window.filter id).length := Nat.mod_le _ _
    simp only [tfPot, tf_step_window, tf_step_ready_eq, tfMu_push, TF.count, Bool.not_false, ite_self, Bool.false_eq_true, if_false, Nat.zero_add]
    -- each activate in the window has one cycle less to live (`hp`); `ready` stays down only while 4 or more are counted (`hq`)
    cases s.ready <;> split <;> simp <;> omega

/-- an activate enters the window with lifetime `f`, and may bring `ready` down (the `+ 1`) -/
theorem tfPot_strobe (t : Option Nat) (s : TF) (h : TfOk t s) (v : Bool) :
    tfPot t (TF.step t s v) ≤ tfPot t s + t.getD 0 + 1 := by
  cases t with
  | none => simp [tfPot]
  | some f =>
    simp only [TfOk] at h
    have hp := tfMu_pred f s.window (by omega)
    simp only [tfPot, tf_step_window, tfMu_push, Option.getD_some]
    have h1 : (if v = true then f else 0) ≤ f := by split <;> omega
    have h2 : ∀ b : Bool, (if b = true then 0 else 1) ≤ 1 := by intro b; cases b <;> simp
    refine Nat.le_trans (Nat.add_le_add_left (h2 _) _) ?_
    omega

structure MOk (c : Cfg) (s : State) : Prop where
  trrd : TxOk c.tRRD s.trrd
  twtr : TxOk (some c.twtr) s.twtr
  tccd : TxOk (some c.tCCD) s.tccd
  tfaw : TfOk c.tFAW s.tfaw
  gc : s.grantCmd < c.nbm
  gr : s.grantReq < c.nbm
  size : s.bms.size = c.nbm
  bm : ∀ b, b < c.nbm → TOk c.bm s.bms[b]!

theorem mok_step (c : Cfg) (s : State) (ins : Array BankIn) (h : MOk c s) : MOk c (step c s ins).1 where
  trrd := by rw [CtlTiming.step_trrd]; exact txok_step _ _ _ h.trrd
  twtr := by rw [CtlTiming.step_twtr]; exact txok_step _ _ _ h.twtr
  tccd := by rw [CtlTiming.step_tccd]; exact txok_step _ _ _ h.tccd
  tfaw := by rw [CtlTiming.step_tfaw]; exact tfok_step _ _ _ h.tfaw
  gc := by rw [step_grantCmd]; exact C05.rrStep_lt _ _ _ _ h.gc
  gr := by rw [step_grantReq]; exact C05.rrStep_lt _ _ _ _ h.gr
  size := step_bms_size c s ins
  bm := by
    intro b hb
    rw [step_bms c s ins b hb]
    exact tok_step _ _ _ (h.bm b hb)

theorem mok_init (c : Cfg) (hn : 0 < c.nbm) : MOk c (init c) where
  trrd := txok_init _
  twtr := txok_init _
  tccd := txok_init _
  tfaw := tfok_init _
  gc := hn
  gr := hn
  size := by simp [init]
  bm := by
    intro b hb
    rw [init_bms c b hb]
    exact { w := txok_init _, a := txok_init _, r := txok_init _ }

def runCtl (c : Cfg) (s : State) (inputs : List (Array BankIn)) : State := inputs.foldl (fun st i => (step c st i).1) s

theorem mok_reachable (c : Cfg) (hn : 0 < c.nbm) (pre : List (Array BankIn)) : MOk c (runCtl c (init c) pre) :=
  Run.foldl_inv (fun st i => (step c st i).1) (MOk c) (fun _ => True) (fun s i h _ => mok_step c s i h) pre _ (mok_init c hn)
    (fun _ _ => trivial)

theorem cinv_reachable (c : Cfg) (hwf : CtlInv.WF c) (pre : List (Array BankIn)) (hpre : ∀ ins ∈ pre, InsOk c ins) :
    ∃ g, CInv c (runCtl c (init c) pre) g :=
  Run.foldl_inv (fun st i => (step c st i).1) (fun s => ∃ g, CInv c s g) (InsOk c)
    (fun s i ⟨g, h⟩ hi => ⟨_, (cinv_step c hwf s g i hi h).1⟩) pre _ ⟨_, cinv_init c hwf⟩ hpre

theorem no_col_pending (c : Cfg) (s : State) (ins : Array BankIn) (hp : Pending c s) :
    (reqsOf c s ins).any (fun r => r.valid && r.isRead) = false ∧ (reqsOf c s ins).any (fun r => r.valid && r.isWrite) = false := by
  constructor <;> rw [Bool.eq_false_iff, Ne, reqs_any] <;> rintro ⟨j, _, hj⟩
  · simp [(reqJ_pending c s ins hp j).isRead] at hj
  · simp [(reqJ_pending c s ins hp j).isWrite] at hj

theorem muxWait_zero (c : Cfg) (s : State) : muxWait c s = 0 ↔ (s.fsm = .read ∨ s.fsm = .write ∨ s.fsm = .refresh) := by
  simp only [muxWait]; cases s.fsm <;> simp

theorem muxWait_active (c : Cfg) (s : State) (hnref : s.fsm ≠ .refresh) : muxWait c s = 0 ↔ (s.fsm = .read ∨ s.fsm = .write) := by
  rw [muxWait_zero]
  exact ⟨fun h => h.elim Or.inl fun h => h.elim Or.inr fun e => absurd e hnref, fun h => h.elim Or.inl fun e => Or.inr (Or.inl e)⟩

/-- nothing is accepted in WTR / RTW, so tWTR gets no strobe -/
theorem muxWait_turn (c : Cfg) (s : State) (ins : Array BankIn) (hk : MOk c s) (h0 : muxWait c s ≠ 0) :
    (step c s ins).1.fsm ≠ .refresh ∧ muxWait c (step c s ins).1 + 1 ≤ muxWait c s := by
  have hw := rem_idle (some c.twtr) s.twtr hk.twtr
  have hst : (step c s ins).1.twtr = TX.step (some c.twtr) s.twtr false := by
    rw [CtlTiming.step_twtr, CtlTiming.wrStrobeOf]
    cases h : (combOf c s ins).reqAccept
    · rfl
    · exact absurd ((muxWait_zero c s).mpr (by rcases (req_acc c s ins h).active with e | e <;> simp [e])) h0
  simp only [muxWait, step_fsm, fsmNext, hst] at h0 ⊢
  cases hf : s.fsm <;> simp only [hf] at h0 ⊢
  · exact absurd rfl h0
  · exact absurd rfl h0
  · exact absurd rfl h0
  · cases hr : s.twtr.ready
    · have := rem_ne_zero hk.twtr hr
      simp only [Bool.false_eq_true, if_false, hw]
      exact ⟨by simp, by omega⟩
    · simp
  · split
    · exact ⟨by simp, by simp only []; omega⟩
    · simp

theorem muxWait_step (c : Cfg) (s : State) (ins : Array BankIn) (hk : MOk c s) (hp : Pending c s) :
    (step c s ins).1.fsm = .refresh ∨ muxWait c (step c s ins).1 ≤ muxWait c s - 1 := by
  by_cases h0 : muxWait c s = 0
  · -- READ / WRITE / REFRESH stay among themselves: no column command asks for a turn-round
    obtain ⟨hr, hw⟩ := no_col_pending c s ins hp
    simp only [muxWait, step_fsm, fsmNext, hr, hw]
    rcases (muxWait_zero c s).mp h0 with e | e | e <;> simp only [e] <;> split <;> simp
  · have := (muxWait_turn c s ins hk h0).2
    right; omega

/-- the longest turn-round of the multiplexer FSM (`muxWait_le`) -/
def muxCap (c : Cfg) : Nat := remMax (some c.twtr) + 1 + c.readLatency

theorem muxWait_le (c : Cfg) (s : State) (hk : MOk c s) : muxWait c s ≤ muxCap c := by
  have := rem_le _ _ hk.twtr
  simp only [muxWait, muxCap]; cases s.fsm <;> simp only [] <;> omega

def rasAllowedOf (s : State) : Bool := s.trrd.ready && s.tfaw.ready

theorem rasAllowedOf_iff (s : State) : rasAllowedOf s = true ↔ s.trrd.ready = true ∧ s.tfaw.ready = true := Bool.and_eq_true_iff

theorem cmdReady_of_allowed (c : Cfg) (s : State) (ins : Array BankIn) (hone : (c.nphases == 1) = false)
    (hact : s.fsm = .read ∨ s.fsm = .write) (hra : rasAllowedOf s = true) : cmdReadyOf c s ins = true := by
  rcases hact with e | e <;> simp [cmdReadyOf, hone, e, (rasAllowedOf_iff s).mp hra]

theorem reqReady_of_allowed (c : Cfg) (s : State) (ins : Array BankIn) (hact : s.fsm = .read ∨ s.fsm = .write)
    (hccd : s.tccd.ready = true) (hra : rasAllowedOf s = true) : reqReadyOf c s ins = true := by
  rcases hact with e | e <;> simp [reqReadyOf, e, hccd, (rasAllowedOf_iff s).mp hra]

theorem rasWait_quiet (c : Cfg) (s : State) (ins : Array BankIn) (hk : MOk c s) (hs : CtlTiming.actStrobeOf c s ins = false) :
    rasWait c (step c s ins).1 ≤ rasWait c s ∧ (rasAllowedOf s = false → rasWait c (step c s ins).1 + 1 ≤ rasWait c s) := by
  have h1 := rem_idle c.tRRD s.trrd hk.trrd
  have h2 := tfPot_idle c.tFAW s.tfaw hk.tfaw
  simp only [rasWait, CtlTiming.step_trrd, CtlTiming.step_tfaw, hs]
  refine ⟨by omega, fun hra => ?_⟩
  rcases Bool.and_eq_false_iff.mp hra with hr | hr
  · have := rem_ne_zero hk.trrd hr; omega
  · have := h2.2 hr; omega

theorem rasWait_any (c : Cfg) (s : State) (ins : Array BankIn) (hk : MOk c s) :
    rasWait c (step c s ins).1 ≤ rasWait c s + rasInc c := by
  have h1 := rem_idle c.tRRD s.trrd hk.trrd
  have h3 := rem_strobe_opt c.tRRD s.trrd
  have h4 := tfPot_strobe c.tFAW s.tfaw hk.tfaw
  simp only [rasWait, rasInc, CtlTiming.step_trrd, CtlTiming.step_tfaw]
  cases hs : CtlTiming.actStrobeOf c s ins
  · have := h4 false; omega
  · have := h4 true; omega

theorem rasWait_zero (c : Cfg) (s : State) (hk : MOk c s) (h0 : rasWait c s = 0) : rasAllowedOf s = true := by
  simp only [rasWait] at h0
  exact (rasAllowedOf_iff s).mpr ⟨(rem_zero _ _ hk.trrd).mp (by omega), tfPot_zero _ _ hk.tfaw (by omega)⟩

/-- round-robin distance and tRRD/tFAW wait: what stands between a row command and its acceptance while the FSM is in READ/WRITE -/
def omegaA (c : Cfg) (s : State) (b : Nat) : Nat := C05.dist c.nbm s.grantCmd b * (rasInc c + 1) + rasWait c s

theorem omegaA_step (c : Cfg) (hone : (c.nphases == 1) = false) (s : State) (ins : Array BankIn) (hk : MOk c s)
    (b : Nat) (hb : b < c.nbm) (hvb : bmValid s.bms[b]! = true)
    (hnr : ((combOf c s ins).cmdAccept && s.grantCmd == b) = false) :
    ((s.fsm = .read ∨ s.fsm = .write) → omegaA c (step c s ins).1 b + 1 ≤ omegaA c s b) ∧
    (¬ (s.fsm = .read ∨ s.fsm = .write) → omegaA c (step c s ins).1 b ≤ omegaA c s b) := by
  have hRany := rasWait_any c s ins hk
  have hvc : (vCmdOf c s ins)[b]! = true := (vCmd_eq c s ins b hb).trans hvb
  obtain ⟨hD0, hD1⟩ := C05.rrStep_dist c.nbm s.grantCmd b (fun i => (vCmdOf c s ins)[i]!)
    (cmdReadyOf c s ins || !(combOf c s ins).cCmd.valid) hk.gc hb hvc
  rw [← step_grantCmd] at hD0 hD1
  rw [cmdAccept_eq] at hnr
  simp only [omegaA]
  cases hce : (cmdReadyOf c s ins || !(combOf c s ins).cCmd.valid)
  · -- the arbiter is held: a valid command that is not ready, so nothing is accepted and the grant stays
    rw [Bool.or_eq_false_iff] at hce
    have hs0 : CtlTiming.actStrobeOf c s ins = false := by simp [CtlTiming.actStrobeOf, hone, cmdAccept_eq, hce.1]
    rw [hD0 (by simp [hce.1, hce.2])]
    refine ⟨fun hact => ?_, fun _ => Nat.add_le_add_left (rasWait_quiet c s ins hk hs0).1 _⟩
    -- in READ/WRITE only a gated activate is not ready: the tRRD/tFAW wait runs down
    have hra : rasAllowedOf s = false := by
      cases h : rasAllowedOf s
      · rfl
      · rw [cmdReady_of_allowed c s ins hone hact h] at hce; cases hce.1
    have := (rasWait_quiet c s ins hk hs0).2 hra
    omega
  · -- the arbiter moves, and not from `b` (whose command it would have handed on): one step closer pays for the
    -- `rasInc` an accepted activate adds
    have hg : s.grantCmd ≠ b := fun hg => by
      have hv : (combOf c s ins).cCmd.valid = true := by rw [cCmd_valid, hg]; exact hvc
      rw [hv] at hce hnr
      simp [hg] at hce hnr
      rw [hce] at hnr; cases hnr
    have := NatBits.mul_add_self_le (rasInc c + 1) (hD1 hce hg)
    exact ⟨fun _ => by omega, fun _ => by omega⟩

/-- an upper bound on the cycles until the multiplexer accepts the command bank machine `b` offers -/
def omegaB (c : Cfg) (s : State) (b : Nat) : Nat :=
  muxWait c s + C05.dist c.nbm s.grantCmd b * (rasInc c + 1) + rasWait c s

theorem omegaB_eq (c : Cfg) (s : State) (b : Nat) : omegaB c s b = muxWait c s + omegaA c s b := by
  simp only [omegaB, omegaA, Nat.add_assoc]

theorem omega_step (c : Cfg) (s : State) (ins : Array BankIn) (hk : MOk c s) (hp : Pending c s) (hone : (c.nphases == 1) = false)
    (hnref : s.fsm ≠ .refresh) (b : Nat) (hb : b < c.nbm) (hv : (reqJ c s ins b).valid = true) (hnr : bmReadyOf c s ins b = false) :
    (step c s ins).1.fsm = .refresh ∨ omegaB c (step c s ins).1 b + 1 ≤ omegaB c s b := by
  refine (muxWait_step c s ins hk hp).imp_right fun hM => ?_
  have hvb : bmValid s.bms[b]! = true := (reqJ_pending c s ins hp b).valid ▸ hv
  rw [bmReady_row c hone s ins b hvb] at hnr
  obtain ⟨ra, ri⟩ := omegaA_step c hone s ins hk b hb hvb hnr
  rw [omegaB_eq, omegaB_eq]
  -- READ/WRITE: `muxWait` is 0 and stays 0, `omegaA` falls; WTR/RTW: `muxWait` falls
  by_cases hact : s.fsm = .read ∨ s.fsm = .write
  · have := ra hact; omega
  · have := ri hact
    have : muxWait c s ≠ 0 := mt (muxWait_active c s hnref).mp hact
    omega

theorem K_pos (c : Cfg) : 1 ≤ rasInc c + 1 := by omega

theorem omegaA_zero (c : Cfg) (hone : (c.nphases == 1) = false) (s : State) (ins : Array BankIn) (hk : MOk c s) (b : Nat)
    (hb : b < c.nbm) (hvb : bmValid s.bms[b]! = true) (hact : s.fsm = .read ∨ s.fsm = .write) (h0 : omegaA c s b = 0) :
    ((combOf c s ins).cmdAccept && s.grantCmd == b) = true := by
  simp only [omegaA] at h0
  have hd := Nat.le_mul_of_pos_right (C05.dist c.nbm s.grantCmd b) (K_pos c)
  have hg : s.grantCmd = b := C05.dist_zero c.nbm _ _ hk.gc hb (by omega)
  rw [cmdAccept_eq, cCmd_valid, hg, vCmd_eq c s ins b hb, hvb, cmdReady_of_allowed c s ins hone hact (rasWait_zero c s hk (by omega))]
  simp

theorem omega_zero (c : Cfg) (s : State) (ins : Array BankIn) (hk : MOk c s) (hp : Pending c s) (hone : (c.nphases == 1) = false)
    (hnref : s.fsm ≠ .refresh) (b : Nat) (hb : b < c.nbm) (hv : (reqJ c s ins b).valid = true) (h0 : omegaB c s b = 0) :
    bmReadyOf c s ins b = true := by
  rw [omegaB_eq] at h0
  have hact := (muxWait_active c s hnref).mp (by omega)
  have hvb : bmValid s.bms[b]! = true := (reqJ_pending c s ins hp b).valid ▸ hv
  rw [bmReady_row c hone s ins b hvb]
  exact omegaA_zero c hone s ins hk b hb hvb hact (by omega)

theorem tfMu_le (t : Nat) (w : List Bool) : tfMu t w ≤ t * w.length := by
  induction w generalizing t with
  | nil => simp [tfMu]
  | cons b rest ih =>
    have := ih (t - 1)
    simp only [tfMu, List.length_cons]
    have h1 : (if b = true then t else 0) ≤ t := by split <;> omega
    have h2 : (t - 1) * rest.length ≤ t * rest.length := Nat.mul_le_mul_right _ (by omega)
    rw [Nat.mul_add, Nat.mul_one]
    omega

theorem tfPot_le (t : Option Nat) (s : TF) (h : TfOk t s) : tfPot t s ≤ tfMax t := by
  cases t with
  | none => simp [tfPot, tfMax]
  | some f =>
    have := tfMu_le f s.window
    rw [h] at this
    simp only [tfPot, tfMax]
    split <;> omega

theorem rasWait_le (c : Cfg) (s : State) (hk : MOk c s) : rasWait c s ≤ remMax c.tRRD + tfMax c.tFAW :=
  Nat.add_le_add (rem_le _ _ hk.trrd) (tfPot_le _ _ hk.tfaw)

theorem omegaA_le (c : Cfg) (s : State) (hk : MOk c s) (b : Nat) :
    omegaA c s b ≤ (c.nbm - 1) * (rasInc c + 1) + (remMax c.tRRD + tfMax c.tFAW) :=
  Nat.add_le_add (Nat.mul_le_mul_right _ (C05.dist_le c.nbm _ _ (Nat.zero_lt_of_lt hk.gc))) (rasWait_le c s hk)

theorem omega_le (c : Cfg) (s : State) (hk : MOk c s) (b : Nat) : omegaB c s b ≤ omegaMax c := by
  have h1 := muxWait_le c s hk
  have h2 := omegaA_le c s hk b
  simp only [omegaB_eq, omegaMax, muxCap] at h1 ⊢
  omega

end CtlLive
