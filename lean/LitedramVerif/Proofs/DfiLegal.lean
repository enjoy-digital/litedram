/-
From the controller invariant (Proofs/ControllerInv.lean) to the DFI bus: what the steerer's registers show on every phase,
decoded with the JEDEC truth table (`Dram.decode`), passes the specification monitor `Spec/BankMon.lean`.  An accepted command
moves the monitor's bank as the reference bank of the ghost state moves; different phases touch different banks, so the cycle
ends in the banks of the next ghost state (`dfi_cycle`).
-/
import LitedramVerif.Proofs.ControllerInv
import LitedramVerif.Spec.BankMon
import LitedramVerif.Proofs.NatBits
namespace CtlInv
open Controller Hw

theorem colOf_bit10 (c : BankMachine.Cfg) (addr : Nat) : (BankMachine.colOf c addr).testBit 10 = false := by
  unfold BankMachine.colOf
  split
  · rw [Nat.testBit_or, Nat.testBit_shiftLeft, Nat.testBit_shiftLeft]
    by_cases ha : 10 ≥ c.align
    · have : (addr % 2 ^ (10 - c.align)).testBit (10 - c.align) = false :=
        Nat.testBit_lt_two_pow (Nat.mod_lt _ (Nat.two_pow_pos _))
      simp [this]
    · simp [ha]
  · next h =>
    apply Nat.testBit_lt_two_pow
    rw [Nat.shiftLeft_eq]
    by_cases ha : c.align ≤ c.colbits
    · exact Nat.lt_of_lt_of_le (NatBits.low_field_lt ha addr) (Nat.pow_le_pow_right (by decide) (by omega))
    · have : c.colbits - c.align = 0 := by omega
      rw [this]; simp [Nat.mod_one]

def classify (r : BankMachine.Req) (ap : Bool) : C02.Cmd :=
  if r.valid then (if r.cas then .cas ap else if r.ras && r.we then .pre else if r.ras then .act r.a else .nop) else .nop

theorem req_a10 (c : BankMachine.Cfg) (s : BankMachine.State) (v w : Bool) (a : Nat) (rf : Bool) (hab : 11 ≤ c.abits) :
    let r := BankMachine.req c s v w a rf
    r.ras = true → r.we = true → r.a.testBit 10 = false := by
  simp only [BankMachine.req, BankMachine.step]
  cases hf : s.fsm <;> simp [NatBits.testBit_mod_two_pow_of_lt _ hab, colOf_bit10]

theorem cas_ap (c : BankMachine.Cfg) (s : BankMachine.State) (i : BankMachine.In) (hab : 11 ≤ c.abits)
    (hcas : (BankMachine.req c s i.valid i.we i.addr i.refresh).cas = true) (hr : i.ready = true) :
    ((BankMachine.step c s i).1.fsm == .autoprecharge) = (BankMachine.req c s i.valid i.we i.addr i.refresh).a.testBit 10 := by
  -- an accepted column command leaves REGULAR for AUTOPRECHARGE exactly under the condition that puts 1024 into the address,
  -- and the column bits never reach A10
  have hc := colOf_bit10 c s.buf.addr
  simp only [BankMachine.req, BankMachine.step] at hcas ⊢
  cases hf : s.fsm <;> simp [hf] at hcas
  simp [hcas, hr, NatBits.testBit_mod_two_pow_of_lt _ hab, hc, Nat.testBit_or]
  have h1024 : Nat.testBit 1024 10 = true := by decide
  repeat' split
  all_goals simp_all

def monCfgB (c : Cfg) : BankMon.Cfg :=
  { nphases := c.nphases, nranks := 2 ^ c.rankbits, nbanks := 2 ^ c.bankbits, rdphase := c.rdphase, wrphase := c.wrphase }

/-- the chip selects are the complement of a one-hot (the bit test at the end of the proof); rank and bank make up `ba`, the
monitor's index of the bank -/
theorem decodeRank_sel (c : Cfg) (ba : Nat) (hba : ba < 2 ^ (c.rankbits + c.bankbits)) :
    BankMon.selected (monCfgB c) (decodeRank c ba).1 = [ba / 2 ^ c.bankbits] ∧
    (decodeRank c ba).2 < 2 ^ c.bankbits ∧
    (ba / 2 ^ c.bankbits) * 2 ^ c.bankbits + (decodeRank c ba).2 = ba := by
  have hrank : ba / 2 ^ c.bankbits < 2 ^ c.rankbits :=
    NatBits.div_lt_of_lt_mul' (by rw [← Nat.pow_add, Nat.add_comm]; exact hba)
  unfold decodeRank BankMon.selected monCfgB
  by_cases hr0 : c.rankbits = 0
  · simp only [hr0, beq_self_eq_true, if_true, Nat.pow_zero] at hrank ⊢
    have hb : ba < 2 ^ c.bankbits := by rw [hr0] at hba; simpa using hba
    have : ba / 2 ^ c.bankbits = 0 := Nat.div_eq_of_lt hb
    refine ⟨?_, hb, by rw [this]; simp⟩
    rw [this]; decide
  · have hr0' : (c.rankbits == 0) = false := by simpa using hr0
    simp only [hr0', Bool.false_eq_true, if_false, Nat.shiftRight_eq_div_pow]
    refine ⟨?_, Nat.mod_lt _ (Nat.two_pow_pos _), by rw [Nat.mul_comm]; exact Nat.div_add_mod _ _⟩
    apply Lists.filter_range_singleton _ _ _ hrank
    intro r hr
    generalize ba / 2 ^ c.bankbits = rank at hrank ⊢
    have h1 : (1 <<< rank) % 2 ^ 2 ^ c.rankbits = 2 ^ rank := by
      rw [Nat.one_shiftLeft]; exact Nat.mod_eq_of_lt (Nat.pow_lt_pow_right (by decide) hrank)
    rw [h1]
    have h2 : 2 ^ 2 ^ c.rankbits - 1 - 2 ^ rank = 2 ^ 2 ^ c.rankbits - (2 ^ rank + 1) := by omega
    rw [h2, Nat.testBit_two_pow_sub_succ (Nat.pow_lt_pow_right (by decide) hrank), Nat.testBit_two_pow]
    simp [hr]
    omega

open BankMon in
theorem selected_zero (c : BankMon.Cfg) : selected c 0 = List.range c.nranks := by
  simp [selected]

theorem rank_lt (c : Controller.Cfg) (hnb : c.nbm = 2 ^ (c.rankbits + c.bankbits)) (j : Nat) :
    j / 2 ^ c.bankbits < 2 ^ c.rankbits ↔ j < c.nbm := by
  rw [Nat.div_lt_iff_lt_mul (Nat.two_pow_pos _), ← Nat.pow_add, hnb]

/-- what `_Steerer` (litedram/core/multiplexer.py) registers on a phase whose `sel` picks `x`; `acc` is the
`cmd.valid & cmd.ready` of its `valid_and` -/
def mkPhase (c : Cfg) (x : Chosen) (acc : Bool) : Phase :=
  { csN := (decodeRank c x.ba).1, bank := (decodeRank c x.ba).2, address := x.a, casN := !(acc && x.cas), rasN := !(acc && x.ras),
    weN := !(acc && x.we), rddataEn := acc && x.isRead, wrdataEn := acc && x.isWrite }

/-- `sel = STEER_NOP`: the `nop` record has no `valid` (lines high); the rank decoder still decodes its `ba`, which is 0: hence
the chip selects of bank machine 0 -/
def nopPhase (c : Cfg) : Phase := { csN := (decodeRank c 0).1, bank := (decodeRank c 0).2, address := 0 }

/-- `sel = STEER_REFRESH`, on phase 0 only: the refresher's command with every rank selected (`cs_n = 0`) -/
def rfPhase (c : Cfg) (s : State) : Phase :=
  let ro := roOf c s
  let acc := ro.valid && (s.fsm == .refresh)
  { csN := 0, bank := (decodeRank c ro.ba).2, address := ro.a, casN := !(acc && ro.cas), rasN := !(acc && ro.ras), weN := !(acc && ro.we) }

/-- step 9 of `Controller.step`; with one phase `choose_cmd` is `choose_req` -/
def dfiNext (c : Cfg) (s : State) (ins : Array BankIn) (i : Nat) : Phase :=
  let k := combOf c s ins
  let one := c.nphases == 1
  match steerSel c s.fsm i with
  | .nop => nopPhase c
  | .cmd => mkPhase c (if one then k.cReq else k.cCmd) (if one then k.reqAccept else k.cmdAccept)
  | .req => mkPhase c k.cReq k.reqAccept
  | .refresh => rfPhase c s

theorem step_dfi_eq (c : Cfg) (s : State) (ins : Array BankIn) :
    (step c s ins).1.dfi = (Array.range c.nphases).map fun i => dfiNext c s ins i := rfl

theorem step_dfi (c : Cfg) (s : State) (ins : Array BankIn) (i : Nat) (h : i < c.nphases) :
    (step c s ins).1.dfi[i]! = dfiNext c s ins i := by
  rw [step_dfi_eq, Lists.getElem!_map_range _ _ _ h]

theorem step_dfi_size (c : Cfg) (s : State) (ins : Array BankIn) : (step c s ins).1.dfi.size = c.nphases := by
  rw [step_dfi_eq]; simp

open BankMon in
theorem phaseStep_of_idle_lines {c : BankMon.Cfg} {sv : Option (Nat × Nat)} {b : Banks} {i : Nat} {p : Dram.Phase}
    (hras : p.rasN = true) (hcas : p.casN = true) (hwe : p.weN = true) (hrd : p.rddataEn = false) (hwr : p.wrdataEn = false) :
    phaseStep c sv b i p = some b := by
  simp [phaseStep, Dram.decode, hras, hcas, hwe, hrd, hwr, isRd, isWr]

open BankMon in
theorem nop_phase_step (c : Controller.Cfg) (served : Option (Nat × Nat)) (b : Banks) (i : Nat) :
    phaseStep (monCfgB c) served b i (C02.toPhase (nopPhase c)) = some b :=
  phaseStep_of_idle_lines rfl rfl rfl rfl rfl

open BankMon in
theorem bm_phase_step (c : Controller.Cfg) (hnb : c.nbm = 2 ^ (c.rankbits + c.bankbits)) (sj : BankMachine.State)
    (r : BankMachine.Req) (hs : ReqShape r) (hv : r.valid = true) (ha10 : r.ras = true → r.we = true → r.a.testBit 10 = false)
    (j : Nat) (hj : j < c.nbm) (b : Banks) (served : Option (Nat × Nat)) (i : Nat) (ap : Bool)
    (hap : r.cas = true → ap = r.a.testBit 10) (hleg : C02.legal c.bm sj (b j) (classify r ap) = true)
    (hph : r.cas = true → i = (if r.we then c.wrphase else c.rdphase) ∧ served = some (j, BankMachine.rowFull c.bm sj.buf.addr)) :
    ∃ b', phaseStep (monCfgB c) served b i (C02.toPhase (mkPhase c (chosenOf r j) true)) = some b' ∧
      ∀ k, b' k = if k = j then C02.dramStep (b j) (classify r ap) else b k := by
  obtain ⟨hsel, hbank, hgb⟩ := decodeRank_sel c j (hnb ▸ hj)
  have hra : r.ras = !r.cas := by rw [hs.ras, hv]; rfl
  simp only [classify, hv, hra, if_true] at hleg ⊢
  cases hc : r.cas <;> cases hw : r.we <;>
    simp only [hc, hw, Bool.not_false, Bool.not_true, Bool.and_true, Bool.and_false, Bool.false_eq_true, if_true, if_false, C02.legal,
      phaseStep, C02.toPhase, mkPhase, chosenOf, hra, hs.isRead, hs.isWrite, Dram.decode, Bool.and_self, Bool.true_and, hsel, isRd,
      isWr] at hleg ⊢
  case false.false =>  -- ACT
    have hbn : b j = none := by simpa using hleg
    exact ⟨upd b j (some r.a), by simp [hgb, hbn, hbank, monCfgB], fun k => by simp [C02.dramStep, upd]⟩
  case false.true =>  -- PRE
    exact ⟨upd b j none, by simp [hgb, hbank, monCfgB, ha10 (by rw [hra, hc]; rfl) hw], fun k => by simp [C02.dramStep, upd]⟩
  all_goals  -- RD / WR
    obtain ⟨hi, hsv⟩ := hph hc
    rw [hw] at hi
    have hbj : b j = some (BankMachine.rowFull c.bm sj.buf.addr) := by simpa using hleg
    exact ⟨if ap then upd b j none else b, by simp [hi, hbj, hsv, hgb, hbank, hap hc, monCfgB],
      fun k => by cases ap <;> simp [C02.dramStep, upd, hbj] <;> grind⟩

open BankMon in
/-- an accepted precharge-all closes every bank; REF and ZQC come with every bank closed (`rf_cmd_legal`) and leave them so -/
theorem rf_phase_step (c : Controller.Cfg) (hnb : c.nbm = 2 ^ (c.rankbits + c.bankbits)) (s : State) (g : Ghost)
    (h : CInv c s g) (hfs : s.fsm = .refresh) (sv : Option (Nat × Nat)) (b : Banks) (hb : ∀ j, j < c.nbm → b j = g.d j) (i : Nat) :
    ∃ b', phaseStep (monCfgB c) sv b i (C02.toPhase (rfPhase c s)) = some b' ∧
      ∀ j, b' j = if j < c.nbm ∧ preaOf c s = true then none else b j := by
  have hnr2 : (monCfgB c).nranks = 2 ^ c.rankbits := rfl
  have hidx : ∀ r k, r < 2 ^ c.rankbits → k < 2 ^ c.bankbits → r * 2 ^ c.bankbits + k < c.nbm := by
    intro r k hr hk
    rw [hnb, Nat.pow_add, Nat.mul_comm r, Nat.add_comm, Nat.mul_comm (2 ^ c.rankbits)]
    exact NatBits.join_lt hk hr
  cases hv : (roOf c s).valid
  · refine ⟨b, ?_, fun j => ?_⟩
    · refine phaseStep_of_idle_lines ?_ ?_ ?_ rfl rfl <;> simp [C02.toPhase, rfPhase, hv]
    · have : preaOf c s = false := Bool.eq_false_iff.mpr fun hp => by rw [(preaOf_acc c s hp).1] at hv; cases hv
      simp [this]
  · have hcases := rf_cmd_legal c s g h hv hfs
    have hacc : ((roOf c s).valid && (s.fsm == Fsm.refresh)) = true := by simp [hv, hfs]
    have hro : (roOf c s).cas = s.rf.cas ∧ (roOf c s).ras = s.rf.ras ∧ (roOf c s).we = s.rf.we ∧ (roOf c s).a = s.rf.a := by
      simp [roOf, Refresher.out]
    have hpo : preaOf c s = (s.rf.ras && s.rf.we && !s.rf.cas) := by
      unfold roOf at hv
      simp [preaOf, RefresherInv.preaAcc, hv, hfs]
    rcases hcases with hn | hp | ⟨hrz, hclosed⟩
    · obtain ⟨h1, h2, h3⟩ := hn
      refine ⟨b, ?_, fun j => ?_⟩
      · refine phaseStep_of_idle_lines ?_ ?_ ?_ rfl rfl <;> simp [C02.toPhase, rfPhase, hro, h1, h2, h3]
      · simp [hpo, h1, h2, h3]
    · obtain ⟨h1, h2, h3, h4⟩ := hp
      refine ⟨closeRanks (monCfgB c) b (List.range (2 ^ c.rankbits)), ?_, fun j => ?_⟩
      · have h10 : Nat.testBit 1024 10 = true := by decide
        simp only [phaseStep, C02.toPhase, rfPhase, hacc, hro, h1, h2, h3, h4, Dram.decode, isRd, isWr, selected_zero, h10]
        simp [hnr2]
      · simp only [hpo, h1, h2, h3, closeRanks, monCfgB]
        by_cases hj : j < c.nbm
        · simp [hj, (rank_lt c hnb j).mpr hj]
        · simp [hj, mt (rank_lt c hnb j).mp hj]
    · have hrc : ranksClosed (monCfgB c) b (List.range (2 ^ c.rankbits)) = true := by
        simp only [ranksClosed, monCfgB, List.all_eq_true, List.mem_range]
        intro r hr k hk
        have := hidx r k hr hk
        rw [hb _ this, hclosed _ this]; rfl
      rcases hrz with ⟨h1, h2, h3⟩ | ⟨h1, h2, h3⟩
      all_goals
        refine ⟨b, ?_, fun j => ?_⟩
        · simp only [phaseStep, C02.toPhase, rfPhase, hacc, hro, h1, h2, h3, Dram.decode, isRd, isWr, selected_zero]
          simp [hnr2, hrc]
        · simp [hpo, h1, h2, h3]

def doneAt (p : Option Nat) (i : Nat) : Bool := match p with | some q => decide (q < i) | none => false

open BankMon in
theorem cycleFrom_append (c : BankMon.Cfg) (sv : Option (Nat × Nat)) (ph : Array Dram.Phase) (l1 l2 : List Nat) (b : Banks) :
    cycleFrom c sv ph (l1 ++ l2) b = (cycleFrom c sv ph l1 b).bind (cycleFrom c sv ph l2) := by
  induction l1 generalizing b with
  | nil => simp [cycleFrom]
  | cons i is ih =>
    simp only [List.cons_append, cycleFrom]
    cases phaseStep c sv b i ph[i]! with
    | none => simp
    | some b' => simp [ih]

open BankMon in
theorem cycle_nops (c : BankMon.Cfg) (sv : Option (Nat × Nat)) (phs : Array Dram.Phase) (d : Banks) (l : List Nat)
    (h : ∀ i ∈ l, phaseStep c sv d i phs[i]! = some d) : cycleFrom c sv phs l d = some d := by
  induction l with
  | nil => rfl
  | cons i is ih =>
    simp only [cycleFrom, h i List.mem_cons_self]
    exact ih fun k hk => h k (List.mem_cons_of_mem _ hk)

open BankMon in
theorem cycle_pointwise (c : BankMon.Cfg) (sv : Option (Nat × Nat)) (phs : Array Dram.Phase) (d fin : Banks) (ph : Nat → Option Nat)
    (n : Nat)
    (hstep : ∀ i, i < n → ∀ b : Banks, (∀ j, b j = if doneAt (ph j) i then fin j else d j) →
        ∃ b', phaseStep c sv b i phs[i]! = some b' ∧ ∀ j, b' j = if doneAt (ph j) (i + 1) then fin j else d j) :
    ∃ b'', cycleFrom c sv phs (List.range n) d = some b'' ∧ ∀ j, b'' j = if doneAt (ph j) n then fin j else d j := by
  induction n with
  | zero =>
    refine ⟨d, by simp [cycleFrom], fun j => ?_⟩
    cases h : ph j <;> simp [doneAt]
  | succ n ih =>
    obtain ⟨b1, h1, h2⟩ := ih (fun i hi => hstep i (by omega))
    obtain ⟨b2, h3, h4⟩ := hstep n (by omega) b1 h2
    refine ⟨b2, ?_, h4⟩
    rw [List.range_succ, cycleFrom_append, h1]
    simp [cycleFrom, h3]

open BankMon in
theorem cycle_first (c : BankMon.Cfg) (sv : Option (Nat × Nat)) (phs : Array Dram.Phase) (d d' : Banks) (n : Nat) (hn : 0 < n)
    (h0 : phaseStep c sv d 0 phs[0]! = some d') (h : ∀ i, i < n → i ≠ 0 → phaseStep c sv d' i phs[i]! = some d') :
    cycleFrom c sv phs (List.range n) d = some d' := by
  obtain ⟨k, rfl⟩ : ∃ k, n = k + 1 := ⟨n - 1, by omega⟩
  rw [List.range_succ_eq_map]
  simp only [cycleFrom, h0]
  refine cycle_nops c sv phs d' _ fun i hi => ?_
  obtain ⟨j, hj, rfl⟩ := List.mem_map.mp hi
  exact h (j + 1) (by simpa using hj) (by omega)

open BankMon in
theorem cycle_targets (c : BankMon.Cfg) (sv : Option (Nat × Nat)) (phs : Array Dram.Phase) (d fin : Banks) (tgt : Nat → Option Nat)
    (n : Nat) (hinj : ∀ i i' j, i < n → i' < n → tgt i = some j → tgt i' = some j → i = i')
    (hstep : ∀ i, i < n → ∀ b : Banks, (∀ j, tgt i = some j → b j = d j) →
        ∃ b', phaseStep c sv b i phs[i]! = some b' ∧ ∀ j, b' j = if tgt i = some j then fin j else b j) :
    ∃ b', cycleFrom c sv phs (List.range n) d = some b' ∧
      ∀ j, (∀ i, i < n → tgt i = some j → b' j = fin j) ∧ ((∀ i, i < n → tgt i ≠ some j) → b' j = d j) := by
  induction n with
  | zero => exact ⟨d, by simp [cycleFrom], fun j => ⟨fun i hi => absurd hi (Nat.not_lt_zero _), fun _ => rfl⟩⟩
  | succ n ih =>
    obtain ⟨b1, h1, h2⟩ := ih (fun i i' j hi hi' => hinj i i' j (by omega) (by omega)) (fun i hi => hstep i (by omega))
    obtain ⟨b2, h3, h4⟩ := hstep n (by omega) b1 fun j hj =>
      (h2 j).2 fun i hi e => by have := hinj i n j (by omega) (by omega) e hj; omega
    refine ⟨b2, by rw [List.range_succ, cycleFrom_append, h1]; simp [cycleFrom, h3], fun j => ⟨fun i hi e => ?_, fun hno => ?_⟩⟩
    · rw [h4 j]
      by_cases hin : i = n
      · rw [if_pos (hin ▸ e)]
      · rw [if_neg fun e' => hin (hinj i n j (by omega) (by omega) e e')]
        exact (h2 j).1 i (by omega) e
    · rw [h4 j, if_neg (hno n (by omega))]
      exact (h2 j).2 fun i hi => hno i (by omega)

structure WF2 (c : Controller.Cfg) : Prop where
  base : WF c
  /-- one bank machine per bank of every rank: its index splits into rank and bank (`decodeRank_sel`) -/
  nbm : c.nbm = 2 ^ (c.rankbits + c.bankbits)
  /-- the bank machines drive A10 (`req_a10`, `cas_ap`) -/
  abits : 11 ≤ c.bm.abits
  /-- phase 0 exists: the refresher's commands go there -/
  nph : 1 ≤ c.nphases
  /-- the read and the write phase are phases of the bus: a column command reaches the pins -/
  rdp : c.rdphase < c.nphases
  wrp : c.wrphase < c.nphases

/-- the monitor's `served` -/
def servedOf (c : Controller.Cfg) (s : State) (ins : Array BankIn) : Option (Nat × Nat) :=
  if (combOf c s ins).reqAccept && (combOf c s ins).cReq.cas then
    some (s.grantReq, BankMachine.rowFull c.bm (s.bms[s.grantReq]!).buf.addr)
  else none

theorem phs_get (c : Controller.Cfg) (s : State) (ins : Array BankIn) (i : Nat) (hi : i < c.nphases) :
    ((step c s ins).1.dfi.map C02.toPhase)[i]! = C02.toPhase (dfiNext c s ins i) := by
  rw [Lists.getElem!_map _ _ _ (by rw [step_dfi_size]; exact hi), step_dfi c s ins i hi]

/-- for an accepted column command this is its A10 line (`cas_ap`) -/
def apOf (c : Controller.Cfg) (s : State) (ins : Array BankIn) (j : Nat) : Bool :=
  (BankMachine.step c.bm s.bms[j]! (bmIn c s ins j)).1.fsm == .autoprecharge

theorem cmdOfBm_eq (c : Controller.Cfg) (s : State) (ins : Array BankIn) (j : Nat) :
    cmdOfBm c s ins j = if bmReadyOf c s ins j then classify (reqJ c s ins j) (apOf c s ins j) else .nop :=
  BmTiming.cmdOfStep_req c.bm s.bms[j]! (bmIn c s ins j)

theorem gnext_d (c : Controller.Cfg) (s : State) (g : Ghost) (ins : Array BankIn) (j : Nat) :
    (gNext c s g ins).d j = if preaOf c s then none else
      C02.dramStep (g.d j) (if bmReadyOf c s ins j then classify (reqJ c s ins j) (apOf c s ins j) else .nop) := by
  rw [← cmdOfBm_eq]; rfl

theorem dfiNext_nop (c : Controller.Cfg) (s : State) (ins : Array BankIn) (i : Nat) (h : steerSel c s.fsm i = .nop) :
    dfiNext c s ins i = nopPhase c := by
  simp [dfiNext, h]

def CycleOk (c : Controller.Cfg) (s : State) (g : Ghost) (ins : Array BankIn) (b : BankMon.Banks) : Prop :=
  ∃ b', BankMon.cycleStep (monCfgB c) (servedOf c s ins) b ((step c s ins).1.dfi.map C02.toPhase) = some b' ∧
    ∀ j, j < c.nbm → b' j = (gNext c s g ins).d j

open BankMon in
theorem dfi_cycle_idle (c : Controller.Cfg) (s : State) (g : Ghost) (ins : Array BankIn)
    (hnr : s.fsm ≠ .read) (hnw : s.fsm ≠ .write) (hnf : s.fsm ≠ .refresh) (b : Banks) (hb : ∀ j, j < c.nbm → b j = g.d j) :
    CycleOk c s g ins b := by
  refine ⟨b, cycle_nops _ _ _ _ _ fun i hi => ?_, fun j hj => ?_⟩
  · rw [phs_get c s ins i (List.mem_range.mp hi), dfiNext_nop c s ins i (by cases hfs : s.fsm <;> simp_all [steerSel]),
      nop_phase_step]
  · rw [gnext_d, preaOf_false c s hnf, bmReady_inactive c s ins j hnr hnw, hb j hj]; rfl

open BankMon in
theorem dfi_cycle_refresh (c : Controller.Cfg) (hwf : WF2 c) (s : State) (g : Ghost) (ins : Array BankIn) (h : CInv c s g)
    (hf : s.fsm = .refresh) (b : Banks) (hb : ∀ j, j < c.nbm → b j = g.d j) : CycleOk c s g ins b := by
  obtain ⟨b2, hb2, hb3⟩ := rf_phase_step c hwf.nbm s g h hf (servedOf c s ins) b hb 0
  refine ⟨b2, cycle_first _ _ _ _ _ _ hwf.nph ?_ (fun i hi hi0 => ?_), fun j hj => ?_⟩
  · rw [phs_get c s ins 0 hwf.nph, show dfiNext c s ins 0 = rfPhase c s by simp [dfiNext, steerSel, hf]]
    exact hb2
  · rw [phs_get c s ins i hi, dfiNext_nop c s ins i (by simp [steerSel, hf, hi0]), nop_phase_step]
  · rw [hb3 j, gnext_d, bmReady_inactive c s ins j (by rw [hf]; nofun) (by rw [hf]; nofun)]
    by_cases hp : preaOf c s = true <;> simp [hp, hj, C02.dramStep, hb j hj]

def Slot (c : Controller.Cfg) (s : State) (ins : Array BankIn) (x : Chosen) (acc : Bool) (j i : Nat) : Prop :=
  acc = true → Serves c s ins x j ∧ ((reqJ c s ins j).cas = true →
    i = (if (reqJ c s ins j).we then c.wrphase else c.rdphase) ∧
    servedOf c s ins = some (j, BankMachine.rowFull c.bm (s.bms[j]!).buf.addr))

def slotBank (acc : Bool) (j : Nat) : Option Nat := if acc then some j else none

open BankMon in
theorem acc_phase (c : Controller.Cfg) (hwf : WF2 c) (s : State) (g : Ghost) (ins : Array BankIn)
    (hleg : ∀ j, j < c.nbm → C02.legal c.bm s.bms[j]! (g.d j) (cmdOfBm c s ins j) = true)
    (x : Chosen) (acc : Bool) (j i : Nat) (hacc : Slot c s ins x acc j i) (bb : Banks) (hbj : acc = true → bb j = g.d j) :
    ∃ b2, phaseStep (monCfgB c) (servedOf c s ins) bb i (C02.toPhase (mkPhase c x acc)) = some b2 ∧
      ∀ k, b2 k = if slotBank acc j = some k then
        C02.dramStep (g.d k) (classify (reqJ c s ins k) (apOf c s ins k)) else bb k := by
  cases ha : acc
  · exact ⟨bb, phaseStep_of_idle_lines rfl rfl rfl rfl rfl, fun k => by simp [slotBank]⟩
  · obtain ⟨hs, hph⟩ := hacc ha
    have hl := hleg j hs.lt
    rw [cmdOfBm_eq, hs.ready, if_pos rfl, ← hbj ha] at hl
    obtain ⟨b2, h1, h2⟩ := bm_phase_step c hwf.nbm s.bms[j]! (reqJ c s ins j) (reqJ_shape c s ins j) hs.valid
      (req_a10 c.bm _ _ _ _ _ hwf.abits) j hs.lt bb (servedOf c s ins) i (apOf c s ins j)
      (fun hc => cas_ap c.bm s.bms[j]! (bmIn c s ins j) hwf.abits hc hs.ready) hl hph
    refine ⟨b2, hs.eq ▸ h1, fun k => ?_⟩
    rw [h2 k, hbj ha]
    by_cases hk : k = j
    · subst hk; simp [slotBank]
    · have : ¬ j = k := fun e => hk e.symm
      simp [slotBank, hk, this]

theorem acc_exclusive (c : Controller.Cfg) (s : State) (ins : Array BankIn) (hab : 11 ≤ c.bm.abits)
    (h1 : (combOf c s ins).cmdAccept = true) (h2 : (combOf c s ins).reqAccept = true) : s.grantCmd ≠ s.grantReq := by
  intro he
  have ac := cmd_acc c s ins h1
  have := (req_acc c s ins h2).col ac.multi
  rw [← he, ac.row] at this; cases this

def dirPhase (c : Controller.Cfg) (s : State) : Nat := if s.fsm = .read then c.rdphase else c.wrphase

theorem dfiNext_active (c : Controller.Cfg) (s : State) (ins : Array BankIn) (hf : s.fsm = .read ∨ s.fsm = .write) (i : Nat) :
    dfiNext c s ins i =
      if i = (dirPhase c s + c.nphases - 1) % c.nphases then
        mkPhase c (if (c.nphases == 1) = true then (combOf c s ins).cReq else (combOf c s ins).cCmd)
          (if (c.nphases == 1) = true then (combOf c s ins).reqAccept else (combOf c s ins).cmdAccept)
      else if i = dirPhase c s then mkPhase c (combOf c s ins).cReq (combOf c s ins).reqAccept
      else nopPhase c := by
  have hsel : steerSel c s.fsm i =
      if i = (dirPhase c s + c.nphases - 1) % c.nphases then Sel.cmd else if i = dirPhase c s then Sel.req else Sel.nop := by
    rcases hf with hf | hf <;> simp [steerSel, dirPhase, hf]
  rw [dfiNext, hsel]
  generalize dirPhase c s = pr
  generalize (pr + c.nphases - 1) % c.nphases = pc
  by_cases h1 : i = pc
  · simp only [h1, if_true]
  · by_cases h2 : i = pr
    · subst h2; simp only [h1, if_true, if_false]
    · simp only [h1, h2, if_false]

/-- In READ / WRITE: on `pc` chooser `x1` (the command chooser; with a single phase the request chooser, and `a2` is never up), on
`pr`, the phase of the FSM's direction, the request chooser; each serves a bank machine of its own -/
structure ActiveSlots (c : Controller.Cfg) (s : State) (ins : Array BankIn) where
  pc : Nat
  pr : Nat
  x1 : Chosen
  a1 : Bool
  j1 : Nat
  a2 : Bool
  hpc : pc < c.nphases
  hpr : pr < c.nphases
  sep : a2 = true → pc ≠ pr ∧ (a1 = true → j1 ≠ s.grantReq)
  dfi : ∀ i, dfiNext c s ins i =
    if i = pc then mkPhase c x1 a1 else if i = pr then mkPhase c (combOf c s ins).cReq a2 else nopPhase c
  slot1 : Slot c s ins x1 a1 j1 pc
  slot2 : Slot c s ins (combOf c s ins).cReq a2 s.grantReq pr
  ready : ∀ j, bmReadyOf c s ins j = true ↔ (a1 = true ∧ j = j1) ∨ (a2 = true ∧ j = s.grantReq)

def ActiveSlots.tgt {c : Controller.Cfg} {s : State} {ins : Array BankIn} (a : ActiveSlots c s ins) (i : Nat) : Option Nat :=
  if i = a.pc then slotBank a.a1 a.j1 else if i = a.pr then slotBank a.a2 s.grantReq else none

theorem ActiveSlots.tgt_some {c : Controller.Cfg} {s : State} {ins : Array BankIn} (a : ActiveSlots c s ins) (i j : Nat)
    (h : a.tgt i = some j) :
    (i = a.pc ∧ a.a1 = true ∧ j = a.j1) ∨ (i ≠ a.pc ∧ i = a.pr ∧ a.a2 = true ∧ j = s.grantReq) := by
  simp only [ActiveSlots.tgt, slotBank] at h
  split at h
  · next h1 => cases ha : a.a1 <;> simp [ha] at h; exact Or.inl ⟨h1, rfl, h.symm⟩
  · next h1 =>
    split at h
    · next h2 => cases ha : a.a2 <;> simp [ha] at h; exact Or.inr ⟨h1, h2, rfl, h.symm⟩
    · cases h

theorem req_slot (c : Controller.Cfg) (s : State) (ins : Array BankIn) :
    Slot c s ins (combOf c s ins).cReq (combOf c s ins).reqAccept s.grantReq (dirPhase c s) := by
  intro ha
  have a := req_acc c s ins ha
  refine ⟨a.toServes, fun hc => ⟨?_, ?_⟩⟩
  · rw [a.dir hc]; rcases a.active with e | e <;> simp [dirPhase, e]
  · have hcc : (combOf c s ins).cReq.cas = true := by rw [a.eq]; exact hc
    simp [servedOf, ha, hcc]

theorem active_slots (c : Controller.Cfg) (hwf : WF2 c) (s : State) (ins : Array BankIn) (hf : s.fsm = .read ∨ s.fsm = .write) :
    Nonempty (ActiveSlots c s ins) := by
  have hn := hwf.nph; have hrdp := hwf.rdp; have hwrp := hwf.wrp
  generalize hpr : dirPhase c s = pr
  generalize hpc : (pr + c.nphases - 1) % c.nphases = pc
  have hprlt : pr < c.nphases := by rw [← hpr, dirPhase]; split <;> assumption
  have hpclt : pc < c.nphases := by rw [← hpc]; exact Nat.mod_lt _ (by omega)
  have hdfi := fun i => dfiNext_active c s ins hf i
  simp only [hpr, hpc] at hdfi
  have hreq : Slot c s ins (combOf c s ins).cReq (combOf c s ins).reqAccept s.grantReq pr := hpr ▸ req_slot c s ins
  cases hone : (c.nphases == 1)
  · have h2 : c.nphases ≠ 1 := by simpa using hone
    have hne : pc ≠ pr := hpc ▸ NatBits.pred_phase_ne (by omega) hprlt
    exact ⟨{ pc := pc, pr := pr, x1 := (combOf c s ins).cCmd, a1 := (combOf c s ins).cmdAccept, j1 := s.grantCmd,
             a2 := (combOf c s ins).reqAccept, hpc := hpclt, hpr := hprlt
             sep := fun ha2 => ⟨hne, fun ha1 => acc_exclusive c s ins hwf.abits ha1 ha2⟩
             dfi := by simpa [hone] using hdfi
             slot1 := fun ha => ⟨(cmd_acc c s ins ha).toServes, fun hc => by rw [(cmd_acc c s ins ha).row] at hc; cases hc⟩
             slot2 := hreq
             ready := fun j => by rw [bmReady_iff, or_comm]; simp [@eq_comm _ j] }⟩
  · -- a single phase: everything goes through the request chooser
    have h1 : c.nphases = 1 := by simpa using hone
    have hpcr : pc = pr := by omega
    exact ⟨{ pc := pc, pr := pr, x1 := (combOf c s ins).cReq, a1 := (combOf c s ins).reqAccept, j1 := s.grantReq, a2 := false,
             hpc := hpclt, hpr := hprlt, sep := nofun
             dfi := fun i => by rw [hdfi i, hpcr]; simp only [hone, if_true]; split <;> rfl
             slot1 := hpcr ▸ hreq
             slot2 := nofun
             ready := fun j => by rw [bmReady_iff, cmd_noaccept_one c s ins hone]; simp [@eq_comm _ j] }⟩

theorem ActiveSlots.tgt_inj {c : Controller.Cfg} {s : State} {ins : Array BankIn} (a : ActiveSlots c s ins) {i i' j : Nat}
    (e : a.tgt i = some j) (e' : a.tgt i' = some j) : i = i' := by
  rcases a.tgt_some i j e with ⟨h1, ha1, hj⟩ | ⟨_, h1, ha2, hj⟩ <;>
    rcases a.tgt_some i' j e' with ⟨h1', ha1', hj'⟩ | ⟨_, h1', ha2', hj'⟩
  · rw [h1, h1']
  · exact absurd (hj.symm.trans hj') ((a.sep ha2').2 ha1)
  · exact absurd (hj'.symm.trans hj) ((a.sep ha2).2 ha1')
  · rw [h1, h1']

open BankMon in
theorem ActiveSlots.phase_step {c : Controller.Cfg} {s : State} {ins : Array BankIn} (a : ActiveSlots c s ins) (hwf : WF2 c)
    (g : Ghost) (hleg : ∀ j, j < c.nbm → C02.legal c.bm s.bms[j]! (g.d j) (cmdOfBm c s ins j) = true)
    (i : Nat) (bb : Banks) (hbb : ∀ j, j < c.nbm → a.tgt i = some j → bb j = g.d j) :
    ∃ b', phaseStep (monCfgB c) (servedOf c s ins) bb i (C02.toPhase (dfiNext c s ins i)) = some b' ∧
      ∀ j, b' j = if a.tgt i = some j then C02.dramStep (g.d j) (classify (reqJ c s ins j) (apOf c s ins j)) else bb j := by
  rw [a.dfi]
  by_cases h1 : i = a.pc
  · have := acc_phase c hwf s g ins hleg a.x1 a.a1 a.j1 i (h1 ▸ a.slot1) bb fun ha =>
      hbb a.j1 (a.slot1 ha).1.lt (by simp [ActiveSlots.tgt, slotBank, h1, ha])
    simpa [ActiveSlots.tgt, h1] using this
  · by_cases h2 : i = a.pr
    · have h1' : ¬ a.pr = a.pc := h2 ▸ h1
      have := acc_phase c hwf s g ins hleg _ a.a2 s.grantReq i (h2 ▸ a.slot2) bb fun ha =>
        hbb s.grantReq (a.slot2 ha).1.lt (by simp [ActiveSlots.tgt, slotBank, h1', h2, ha])
      simpa [ActiveSlots.tgt, h1', h2] using this
    · rw [if_neg h1, if_neg h2, nop_phase_step]
      exact ⟨bb, rfl, fun j => by simp [ActiveSlots.tgt, h1, h2]⟩

open BankMon in
theorem dfi_cycle_active (c : Controller.Cfg) (hwf : WF2 c) (s : State) (g : Ghost) (ins : Array BankIn)
    (hleg : ∀ j, j < c.nbm → C02.legal c.bm s.bms[j]! (g.d j) (cmdOfBm c s ins j) = true)
    (hf : s.fsm = .read ∨ s.fsm = .write) (b : Banks) (hb : ∀ j, j < c.nbm → b j = g.d j) : CycleOk c s g ins b := by
  obtain ⟨a⟩ := active_slots c hwf s ins hf
  obtain ⟨b', hb', hv⟩ := cycle_targets (monCfgB c) (servedOf c s ins) ((step c s ins).1.dfi.map C02.toPhase) b
    (fun j => C02.dramStep (g.d j) (classify (reqJ c s ins j) (apOf c s ins j))) a.tgt c.nphases
    (fun _ _ _ _ _ e e' => a.tgt_inj e e')
    (fun i hi bb hbb => by
      rw [phs_get c s ins i hi]
      exact a.phase_step hwf g hleg i bb fun j hj e => (hbb j e).trans (hb j hj))
  refine ⟨b', hb', fun j hj => ?_⟩
  rw [gnext_d, preaOf_false c s (by rcases hf with e | e <;> rw [e] <;> nofun)]
  by_cases h1 : a.a1 = true ∧ j = a.j1
  · rw [(hv j).1 a.pc a.hpc (by simp [ActiveSlots.tgt, slotBank, h1.1, h1.2]), if_pos ((a.ready j).mpr (Or.inl h1))]; rfl
  · by_cases h2 : a.a2 = true ∧ j = s.grantReq
    · rw [(hv j).1 a.pr a.hpr (by simp [ActiveSlots.tgt, slotBank, (a.sep h2.1).1.symm, h2.1, h2.2]),
        if_pos ((a.ready j).mpr (Or.inr h2))]; rfl
    · have : bmReadyOf c s ins j = false := Bool.eq_false_iff.mpr fun h => ((a.ready j).mp h).elim h1 h2
      rw [(hv j).2 fun i _ e => (a.tgt_some i j e).elim (fun h => h1 h.2) (fun h => h2 h.2.2), this, hb j hj]; rfl

theorem dfi_cycle (c : Controller.Cfg) (hwf : WF2 c) (s : State) (g : Ghost) (ins : Array BankIn) (hins : InsOk c ins)
    (h : CInv c s g) (b : BankMon.Banks) (hb : ∀ j, j < c.nbm → b j = g.d j) :
    CycleOk c s g ins b ∧ CInv c (step c s ins).1 (gNext c s g ins) := by
  obtain ⟨hinv', hleg⟩ := cinv_step c hwf.base s g ins hins h
  refine ⟨?_, hinv'⟩
  cases hfs : s.fsm with
  | read => exact dfi_cycle_active c hwf s g ins hleg (Or.inl hfs) b hb
  | write => exact dfi_cycle_active c hwf s g ins hleg (Or.inr hfs) b hb
  | refresh => exact dfi_cycle_refresh c hwf s g ins h hfs b hb
  | wtr | rtw k => exact dfi_cycle_idle c s g ins (by rw [hfs]; nofun) (by rw [hfs]; nofun) (by rw [hfs]; nofun) b hb

/-- the reset values of the steerer's registers (all command lines low = MRS with nothing open) are accepted -/
theorem dfi_init (c : Controller.Cfg) :
    BankMon.cycleStep (monCfgB c) none BankMon.Banks.init ((init c).dfi.map C02.toPhase) = some BankMon.Banks.init := by
  refine cycle_nops _ _ _ _ _ fun i hi => ?_
  have hi : i < c.nphases := List.mem_range.mp hi
  have hsz : i < ((init c).dfi.map C02.toPhase).size := by simp only [init, Array.size_map, Array.size_replicate]; exact hi
  rw [getElem!_pos ((init c).dfi.map C02.toPhase) i hsz]
  simp [init, C02.toPhase, BankMon.phaseStep, Dram.decode, BankMon.isRd, BankMon.isWr, BankMon.ranksClosed, BankMon.Banks.init]

end CtlInv
